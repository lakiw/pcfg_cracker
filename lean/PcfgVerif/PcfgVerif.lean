import PcfgVerif.Properties.C01
import PcfgVerif.Properties.C02
import PcfgVerif.Properties.C03
import PcfgVerif.Properties.C04
import PcfgVerif.Properties.C05
import PcfgVerif.Properties.C06
import PcfgVerif.Properties.C07
import PcfgVerif.Properties.C08
import PcfgVerif.Properties.C09
import PcfgVerif.Properties.C10
import PcfgVerif.Properties.C11
import PcfgVerif.Properties.C12
import PcfgVerif.Properties.C13
import PcfgVerif.Properties.C14
import PcfgVerif.Properties.C15
import PcfgVerif.Properties.C16
import PcfgVerif.Properties.C17
import PcfgVerif.Properties.C18
import PcfgVerif.Properties.C19
import PcfgVerif.Properties.C20
import PcfgVerif.Drive.PQ
import PcfgVerif.Drive.Omen
import PcfgVerif.Drive.Expand
import PcfgVerif.Drive.Loader
import PcfgVerif.Drive.Sampler
import PcfgVerif.Drive.EditRules
import PcfgVerif.Drive.Reader
import PcfgVerif.Drive.Probs
import PcfgVerif.Drive.OmenTrainer
import PcfgVerif.Drive.Session
import PcfgVerif.Drive.Detect
import PcfgVerif.Drive.SoftFloat
import PcfgVerif.Basic
