import PcfgVerif.Lemmas.OmenSucc
import PcfgVerif.Lemmas.OmenWalk
/-!
# OMEN: what `seek` / `next` / `enumFrom` emit while the cursor walks a list

`L` is any list the cursor step walks (`Walks (t.step target) L`); `OmenLevel` puts `Tables.cursors` in.
`blocks target L` lists, in order, the states in which the generator has just emitted something: a cursor of `L`
with a tree of its block.  `seek` takes such a state to the next one of the list (`seek_walks`): the next tree of
the cursor's block, or the first tree of the next cursor that has any (`seek_eq`, which also covers a cursor not
yet begun).
-/
namespace Omen

/-- the trees the generator emits while the cursor is `c` -/
def Tables.outTrees (t : Tables) (target : Nat) (c : Cursor) : List (List Item) :=
  match t.gsTarget target c with
  | none => []
  | some tg => t.m.allTrees (t.curLen c) (t.curIp c) tg

def Tables.blocks (t : Tables) (target : Nat) (cs : List Cursor) : List CState :=
  cs.flatMap fun c => (t.outTrees target c).map (CState.mk c)

/-- the string emitted on reaching `s` -/
def Tables.render (t : Tables) (s : CState) : Str :=
  t.curIp s.cur ++ s.tree.filterMap t.m.charAt

/-- what `seek` returns when `s` is the state to emit -/
def found (s : CState) : List Item × CState := (s.tree, s)

variable (t : Tables) (hne : t.m.NE) (target : Nat)

include hne in
theorem gsNext_fresh (c : Cursor) : t.gsNext target ⟨c, []⟩ = (t.outTrees target c).head? := by
  unfold Tables.gsNext Tables.outTrees
  cases t.gsTarget target c with
  | none => rfl
  | some tg => exact fill_eq_head t.m hne _ _ _

include hne in
theorem gsNext_mid {c : Cursor} {pre suf : List (List Item)} {tr : List Item}
    (h : t.outTrees target c = pre ++ tr :: suf) : t.gsNext target ⟨c, tr⟩ = suf.head? := by
  unfold Tables.outTrees at h
  split at h
  · cases pre <;> cases h
  · obtain ⟨_, _, a, b, rfl, _⟩ := allTrees_props t.m _ _ _ tr (h ▸ List.mem_append_right _ List.mem_cons_self)
    exact nextTree_walks t.m hne _ _ _ pre _ suf h

theorem seek_miss (fuel : Nat) (s : CState) (h : t.gsNext target s = none) :
    t.seek target t.startIp (fuel + 1) s = (t.step target s.cur).bind fun c => t.seek target t.startIp fuel ⟨c, []⟩ := by
  rw [Tables.seek, h, Tables.step]
  cases t.increaseIp target s.cur with
  | some c => rfl
  | none => cases t.increaseLen target t.startIp s.cur <;> rfl

variable {L : List Cursor} (hw : Walks (t.step target) L)

include hne hw in
/-- `seek` from cursor `c` with the trees `rem` of its block still to come: the first of them, or else the first
state of the cursors behind `c` -/
theorem seek_eq {rest pre : List Cursor} {c : Cursor} {tr : List Item} {rem : List (List Item)} {fuel : Nat}
    (hL : L = pre ++ c :: rest) (hf : rest.length < fuel) (hg : t.gsNext target ⟨c, tr⟩ = rem.head?) :
    t.seek target t.startIp fuel ⟨c, tr⟩ = (rem.map (CState.mk c) ++ t.blocks target rest).head?.map found := by
  induction fuel generalizing rest pre c tr rem with
  | zero => cases hf
  | succ fuel ih =>
    cases rem with
    | cons x _ => rw [Tables.seek, hg]; rfl
    | nil =>
      rw [seek_miss t target fuel _ hg, hw pre c rest hL]
      cases rest with
      | nil => rfl
      | cons c' rest' =>
        rw [Tables.blocks, List.flatMap_cons]
        exact ih (hL.trans (List.append_cons ..)) (Nat.lt_of_succ_lt_succ hf) (gsNext_fresh t hne target c')

include hne hw in
theorem seek_walks {pre suf : List CState} {s : CState} {fuel : Nat}
    (h : t.blocks target L = pre ++ s :: suf) (hf : L.length ≤ fuel) :
    t.seek target t.startIp fuel s = suf.head?.map found := by
  obtain ⟨l1, c, l2, p, _, hL, hp, rfl⟩ := flatMap_split h
  obtain ⟨p', tr, s', ho, rfl, rfl⟩ := map_split hp
  exact seek_eq t hne target hw hL (Nat.le_trans (List.suffix_append l1 (c :: l2)).length_le (hL ▸ hf))
    (gsNext_mid t hne target ho)

theorem next_eq (s : CState) :
    t.next target s = (t.seek target t.startIp t.pairCount s).map fun r => (t.curIp r.2.cur ++ r.1.filterMap t.m.charAt, r.2) := by
  unfold Tables.next Tables.startIp
  cases t.seek target ((findFirst t.m.maxLevel t.ipTbl).getD 0) t.pairCount s <;> rfl

variable (hlen : L.length ≤ t.pairCount)

include hne hw hlen in
theorem enumFrom_eq {fuel : Nat} {pre X : List CState} {s : CState} (h : t.blocks target L = pre ++ X)
    (hs : t.seek target t.startIp t.pairCount s = X.head?.map found) :
    t.enumFrom target fuel s = (X.take fuel).map t.render := by
  induction fuel generalizing pre X s with
  | zero => rfl
  | succ fuel ih =>
    rw [Tables.enumFrom, next_eq, hs]
    cases X with
    | nil => rfl
    | cons p X' =>
      exact congrArg (t.render p :: ·)
        (ih (h.trans (List.append_cons ..)) (seek_walks t hne target hw h hlen))

include hne hw hlen in
theorem enumFrom_fresh (fuel : Nat) {c : Cursor} {rest : List Cursor} (hL : L = c :: rest) :
    t.enumFrom target fuel ⟨c, []⟩ = ((t.blocks target L).take fuel).map t.render := by
  subst hL
  -- `blocks (c :: rest)` unfolds to the block of `c` followed by `blocks rest`, which is how `seek_eq` answers
  exact enumFrom_eq t hne target hw hlen (pre := []) rfl
    (seek_eq t hne target hw (pre := []) rfl hlen (gsNext_fresh t hne target c))

end Omen
