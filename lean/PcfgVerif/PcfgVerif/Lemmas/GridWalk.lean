import PcfgVerif.Lemmas.GridFragRestore
/-! `restoreWalk`: started at `(idx, left)` it returns, each once, the nodes at or below `m` none of
whose parents is, among those that are `≥ idx` everywhere and equal to `idx` before `left` — as far as the fuel reaches
(`mem_restoreWalk`); `restoreFuel` reaches every valid node (`mem_restoreWalk_root`). -/
namespace Pcfg
variable {P : Type}

/-- the part of the grid a walk started at `(idx, left)` can reach -/
def Under (idx : List Nat) (left : Nat) (w : List Nat) : Prop :=
  ∀ j, idx.getD j 0 ≤ w.getD j 0 ∧ (j < left → w.getD j 0 = idx.getD j 0)

/-- the walk descends by the first position at which `w` differs from `idx` -/
theorem under_step {cols : List (List P)} {idx w : List Nat} (hv : validIdx cols idx = true)
    (hw : validIdx cols w = true) (left : Nat) :
    (∃ pos ∈ stepsFrom cols idx left, Under (inc idx pos) pos w) ↔ Under idx left w ∧ w ≠ idx := by
  simp only [mem_stepsFrom hv]
  constructor
  · rintro ⟨pos, ⟨hl, hp, _⟩, h⟩
    refine ⟨fun j => ?_, fun e => ?_⟩
    · have := h j; rw [getD_inc] at this; split at this
      · rename_i hj
        exact ⟨Nat.le_of_succ_le this.1, fun hjl => absurd (hj.1 ▸ hjl) (Nat.not_lt_of_le hl)⟩
      · exact ⟨this.1, fun hjl => this.2 (Nat.lt_of_lt_of_le hjl hl)⟩
    · have := (h pos).1; rw [getD_inc, if_pos ⟨rfl, hp⟩, e] at this; exact Nat.lt_irrefl _ this
  · rintro ⟨h, hne⟩
    have hlen : idx.length = w.length := (validIdx_length hv).trans (validIdx_length hw).symm
    obtain ⟨pos, hp, hd, hb⟩ := first_diff idx w hlen (Ne.symm hne)
    have hlt : idx.getD pos 0 < w.getD pos 0 := Nat.lt_of_le_of_ne (h pos).1 hd
    have hwp := validIdx_getD hw (hlen ▸ hp)
    refine ⟨pos, ⟨Nat.le_of_not_lt fun hl => hd ((h pos).2 hl).symm, hp,
      validIdx_inc hv pos (Nat.lt_of_le_of_lt hlt hwp)⟩, fun j => ?_⟩
    rw [getD_inc]; split
    · rename_i hj; rw [hj.1]; exact ⟨hlt, fun hj => absurd hj (Nat.lt_irrefl _)⟩
    · exact ⟨(h j).1, fun hj => (hb j hj).symm⟩

section walk
variable {A : PAlg P} {s : Struct P} {m mn : P}

def Saved (A : PAlg P) (s : Struct P) (m : P) (w : List Nat) : Prop :=
  A.le (findProb A.toPOps s w) m = true ∧ isParentAround A.toPOps s w m = false

/-- a node of probability `≤ m` that is `≤` a saved node at every position is that node: were it smaller
somewhere, the saved node's parent at that position would be `≤ m` too (`findProb_mono`) -/
theorem Saved.above (hs : WFStruct A.toPOps s) {w u : List Nat} (h : Saved A s m w)
    (hw : validIdx s.cols w = true) (hu : validIdx s.cols u = true)
    (hle : ∀ j, u.getD j 0 ≤ w.getD j 0) (hum : A.le (findProb A.toPOps s u) m = true) : w = u :=
  ext_getD ((validIdx_length hw).trans (validIdx_length hu).symm) fun pos =>
    Nat.le_antisymm (Nat.le_of_not_lt fun hlt => by
      have hpar := (isParentAround_false_iff _ _ _ _).mp h.2 pos (Nat.zero_lt_of_lt hlt)
      have hmono : A.le (findProb A.toPOps s (dec w pos)) (findProb A.toPOps s u) = true :=
        findProb_mono A hs (validIdx_dec hw pos) hu fun j => by
          rw [getD_dec]; split
          · rename_i hj; rw [hj]; exact Nat.le_sub_one_of_lt hlt
          · exact hle j
      rw [A.le_trans _ _ _ hmono hum] at hpar
      cases hpar) (hle pos)

theorem restoreWalk_succ {idx : List Nat} (hmn : A.lt (findProb A.toPOps s idx) mn = false)
    (fuel left : Nat) :
    restoreWalk A.toPOps s m mn (fuel + 1) idx left =
      if A.le (findProb A.toPOps s idx) m = true then
        (if isParentAround A.toPOps s idx m = true then [] else [idx])
      else (stepsFrom s.cols idx left).flatMap fun pos =>
        restoreWalk A.toPOps s m mn fuel (inc idx pos) pos := by
  rw [restoreWalk, restoreGuard_eq _ _ _ _ _ hmn]
  cases A.le (findProb A.toPOps s idx) m
  · -- `rrSkip` unfolds to the test of `stepsFrom` (`rrSkip_eq`)
    exact flatMap_skip _ _ _ _
  · cases isParentAround A.toPOps s idx m <;> rfl

variable (hs : WFStruct A.toPOps s)
  (hmn : ∀ i, validIdx s.cols i = true → A.lt (findProb A.toPOps s i) mn = false)
include hs hmn

/-- the fourth conjunct is the whole fuel argument: a step raises the sum of the indices by one -/
theorem mem_restoreWalk (w : List Nat) (fuel : Nat) (idx : List Nat) (left : Nat)
    (hv : validIdx s.cols idx = true) :
    w ∈ restoreWalk A.toPOps s m mn fuel idx left ↔
      validIdx s.cols w = true ∧ Under idx left w ∧ Saved A s m w ∧ w.sum < idx.sum + fuel := by
  induction fuel generalizing idx left with
  | zero =>
    exact ⟨(absurd · List.not_mem_nil), fun ⟨_, hu, _, hf⟩ =>
      absurd (sum_le_of_getD_le fun j => (hu j).1) (Nat.not_le_of_lt hf)⟩
  | succ fuel ih =>
    rw [restoreWalk_succ (hmn idx hv)]
    by_cases h1 : A.le (findProb A.toPOps s idx) m = true
    · -- the walk stops here: by `Saved.above` no saved node other than `idx` itself is under `idx`
      rw [if_pos h1, List.mem_ite_nil_left, List.mem_singleton, Bool.not_eq_true]
      constructor
      · rintro ⟨h2, rfl⟩
        exact ⟨hv, fun _ => ⟨Nat.le_refl _, fun _ => rfl⟩, ⟨h1, h2⟩,
          Nat.lt_add_of_pos_right (Nat.succ_pos _)⟩
      · rintro ⟨hw, hu, hsv, _⟩
        obtain rfl := hsv.above hs hw hv (fun j => (hu j).1) h1
        exact ⟨hsv.2, rfl⟩
    · rw [if_neg h1, List.mem_flatMap]
      have child := fun pos (hpos : pos ∈ stepsFrom s.cols idx left) => by
        have hm := (mem_stepsFrom hv left pos).mp hpos
        have := ih (inc idx pos) pos hm.2.2
        rw [sum_inc idx pos hm.2.1, Nat.add_right_comm] at this
        exact this
      constructor
      · rintro ⟨pos, hpos, hmem⟩
        obtain ⟨hw, hu, hsv, hf⟩ := (child pos hpos).mp hmem
        exact ⟨hw, ((under_step hv hw left).mp ⟨pos, hpos, hu⟩).1, hsv, hf⟩
      · rintro ⟨hw, hu, hsv, hf⟩
        obtain ⟨pos, hpos, hu'⟩ := (under_step hv hw left).mpr ⟨hu, fun e => h1 (e ▸ hsv.1)⟩
        exact ⟨pos, hpos, (child pos hpos).mpr ⟨hw, hu', hsv, hf⟩⟩

theorem nodup_restoreWalk (fuel : Nat) (idx : List Nat) (left : Nat)
    (hv : validIdx s.cols idx = true) : (restoreWalk A.toPOps s m mn fuel idx left).Nodup := by
  induction fuel generalizing idx left with
  | zero => exact List.nodup_nil
  | succ fuel ih =>
    rw [restoreWalk_succ (hmn idx hv)]
    by_cases h1 : A.le (findProb A.toPOps s idx) m = true
    · rw [if_pos h1]; split <;> simp
    · rw [if_neg h1, List.Nodup, List.pairwise_flatMap]
      refine ⟨fun pos hpos => ih (inc idx pos) pos ((mem_stepsFrom hv left pos).mp hpos).2.2, ?_⟩
      refine (stepsFrom_pairwise s.cols idx left).imp_of_mem ?_
      rintro a b ha hb hab x hx _ hy rfl
      have hma := (mem_stepsFrom hv left a).mp ha
      have hmb := (mem_stepsFrom hv left b).mp hb
      -- branch `a` raises position `a`; branch `b > a` leaves it as it is
      have hxa := (((mem_restoreWalk hs hmn x fuel _ _ hma.2.2).mp hx).2.1 a).1
      have hxb := (((mem_restoreWalk hs hmn x fuel _ _ hmb.2.2).mp hy).2.1 a).2 hab
      rw [getD_inc, if_pos ⟨rfl, hma.2.1⟩] at hxa
      rw [hxb, getD_inc, if_neg fun h => Nat.ne_of_lt hab h.1] at hxa
      exact Nat.lt_irrefl _ hxa

theorem mem_restoreWalk_root (w : List Nat) :
    w ∈ restoreWalk A.toPOps s m mn (restoreFuel s) (rootIdx s) 0 ↔
      validIdx s.cols w = true ∧ Saved A s m w := by
  rw [mem_restoreWalk hs hmn w _ _ _ (validIdx_rootIdx hs)]
  refine and_congr_right fun hw =>
    ⟨fun h => h.2.1, fun hsv => ⟨fun j => ⟨?_, nofun⟩, hsv, ?_⟩⟩
  · rw [rootIdx_getD]; exact Nat.zero_le _
  · exact Nat.lt_add_left _ (Nat.lt_succ_of_le (validIdx_sum_le s.cols w hw))

end walk
end Pcfg
