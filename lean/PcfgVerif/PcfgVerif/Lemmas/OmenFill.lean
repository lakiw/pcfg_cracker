import PcfgVerif.Lemmas.Assoc
import PcfgVerif.Lemmas.OmenList
/-!
# OMEN: `findCp` and `fill` versus the specification list `allTrees`

The generator and `allTrees` read the dict `cp` only through the look-up `cpChars` (`cp[prefix][level]`,
`none` when absent) and its total form `chars` (`[]` when absent); the lemmas are stated in these.
`allTrees (len + 2)` is a descending concatenation (`below`) of level blocks (`lvlBlock`), each a
concatenation of index blocks (`idxBlock`); every search loop returns the head of what is left of it.
-/
namespace Omen

/-- all char lists are non-empty (follows from `Tables.WF.cp_levels`) -/
def Model.NE (m : Model) : Prop := ∀ e ∈ m.cp, ∀ p ∈ e.2, p.2 ≠ []

theorem chars_of_some {m : Model} {ip : Str} {l cs} (h : m.cpChars ip l = some cs) : m.chars ip l = cs :=
  congrArg (·.getD []) h

theorem chars_of_none {m : Model} {ip : Str} {l} (h : m.cpChars ip l = none) : m.chars ip l = [] :=
  congrArg (·.getD []) h

theorem Model.NE.chars_ne {m : Model} (hne : m.NE) {ip : Str} {l cs}
    (h : m.cpChars ip l = some cs) : cs ≠ [] := by
  obtain ⟨e, he, hl⟩ := Option.bind_eq_some_iff.1 h
  exact hne _ (assocGet_mem he) _ (assocGet_mem hl)

theorem findCp_go_spec (bottom : Nat) (e : List (Nat × List Char)) (fuel t : Nat) (hf : t < fuel) :
    (∀ cs l, Model.findCp.go bottom e fuel t = some (cs, l) →
      bottom ≤ l ∧ l ≤ t ∧ lvlChars e l = some cs ∧ ∀ k, l < k → k ≤ t → lvlChars e k = none) ∧
    (Model.findCp.go bottom e fuel t = none → ∀ k, bottom ≤ k → k ≤ t → lvlChars e k = none) := by
  -- the cases are the branches of `go` in order
  fun_induction Model.findCp.go bottom e fuel t with
  | case1 => omega
  | case2 => exact ⟨nofun, fun _ k _ _ => by omega⟩
  | case3 t _ _ cs hl =>
    exact ⟨fun _ _ h => by cases h; exact ⟨by omega, Nat.le_refl _, hl, fun k _ _ => by omega⟩, nofun⟩
  | case4 _ _ hl => exact ⟨nofun, fun _ k _ hk => Nat.le_zero.1 hk ▸ hl⟩
  | case5 t _ _ hl _ ih =>
    -- level `t` lists nothing, so only the levels below it are left to account for
    have up : ∀ {k}, (k < t → lvlChars e k = none) → k ≤ t → lvlChars e k = none :=
      fun {k} h _ => if hk : k = t then hk ▸ hl else h (by omega)
    obtain ⟨ih1, ih2⟩ := ih (by omega)
    exact ⟨fun cs l h => let ⟨a, b, c, d⟩ := ih1 cs l h; ⟨a, by omega, c, fun k h1 => up fun h => d k h1 (by omega)⟩,
      fun h k h1 => up fun h' => ih2 h k h1 (by omega)⟩

theorem findCp_go_empty (bottom : Nat) {e : List (Nat × List Char)} (he : ∀ l, lvlChars e l = none) :
    ∀ fuel t, Model.findCp.go bottom e fuel t = none
  | 0, _ => rfl
  | n + 1, t => by simp [Model.findCp.go, he, findCp_go_empty bottom he n]

/-- `_find_cp` is the level search on the entry of `ip`, an absent entry standing for an empty one -/
theorem findCp_eq_go (m : Model) (ip : Str) (top bottom : Nat) :
    m.findCp ip top bottom =
      Model.findCp.go bottom ((m.cpOf ip).getD []) (min top m.maxLevel + 1) (min top m.maxLevel) := by
  unfold Model.findCp
  cases m.cpOf ip with
  | none => exact (findCp_go_empty bottom (fun _ => rfl) _ _).symm
  | some e => rfl

theorem lvlChars_getD (m : Model) (ip : Str) (l : Nat) : lvlChars ((m.cpOf ip).getD []) l = m.cpChars ip l := by
  unfold Model.cpChars
  cases m.cpOf ip <;> rfl

theorem findCp_some {m : Model} {ip : Str} {top bottom : Nat} {cs l}
    (h : m.findCp ip top bottom = some (cs, l)) :
    bottom ≤ l ∧ l ≤ min top m.maxLevel ∧ m.cpChars ip l = some cs ∧
      ∀ k, l < k → k ≤ min top m.maxLevel → m.cpChars ip k = none := by
  rw [findCp_eq_go] at h
  simpa only [lvlChars_getD] using (findCp_go_spec bottom _ _ _ (Nat.lt_succ_self _)).1 cs l h

theorem findCp_none {m : Model} {ip : Str} {top bottom : Nat} (h : m.findCp ip top bottom = none) :
    ∀ k, bottom ≤ k → k ≤ min top m.maxLevel → m.cpChars ip k = none := by
  rw [findCp_eq_go] at h
  simpa only [lvlChars_getD] using (findCp_go_spec bottom _ _ _ (Nat.lt_succ_self _)).2 h

def downFlat {β : Type} (f : Nat → List β) (n : Nat) : List β :=
  (List.range (n + 1)).reverse.flatMap f

def below {β : Type} (f : Nat → List β) (n : Nat) : List β := (List.range n).reverse.flatMap f

theorem downFlat_eq_below {β : Type} (f : Nat → List β) (n : Nat) : downFlat f n = below f (n + 1) := rfl

@[simp] theorem below_zero {β : Type} (f : Nat → List β) : below f 0 = [] := rfl

theorem below_succ {β : Type} (f : Nat → List β) (n : Nat) : below f (n + 1) = f n ++ below f n := by
  simp [below, List.range_succ]

theorem below_skip {β : Type} (f : Nat → List β) (l : Nat) {n : Nat} (hl : l ≤ n)
    (h : ∀ k, l ≤ k → k < n → f k = []) : below f n = below f l := by
  induction hl with
  | refl => rfl
  | step hl ih =>
    rw [below_succ, h _ hl (Nat.lt_succ_self _), List.nil_append]
    exact ih fun k h1 h2 => h k h1 (Nat.lt_succ_of_lt h2)

/-- trees whose first item is `⟨ip, l, j⟩`, `j ≥ i`, chars `cs` being `chars[i:]` -/
def Model.idxBlock (m : Model) (len : Nat) (ip : Str) (rem l : Nat) (i : Nat) (cs : List Char) :
    List (List Item) :=
  (cs.zipIdx i).flatMap fun (c, j) => (m.allTrees len (nextIp ip c) rem).map (⟨ip, l, j⟩ :: ·)

/-- trees whose first item has level `l` -/
def Model.lvlBlock (m : Model) (len : Nat) (ip : Str) (target l : Nat) : List (List Item) :=
  m.idxBlock len ip (target - l) l 0 (m.chars ip l)

theorem idxBlock_nil (m : Model) (len : Nat) (ip : Str) (rem l i : Nat) :
    m.idxBlock len ip rem l i [] = [] := rfl

theorem lvlBlock_of_none {m : Model} {len : Nat} {ip : Str} {target l : Nat}
    (h : m.cpChars ip l = none) : m.lvlBlock len ip target l = [] := by
  rw [Model.lvlBlock, chars_of_none h]; rfl

section
variable (m : Model) (len : Nat) (ip : Str)

theorem allTrees_one (target : Nat) :
    m.allTrees 1 ip target =
      if target ≤ m.maxLevel then (List.range (m.chars ip target).length).map fun i => [⟨ip, target, i⟩]
      else [] := by
  rw [Model.allTrees]
  unfold Model.chars
  cases (m.cpOf ip).bind (lvlChars · target) <;> simp

theorem allTrees_succ_succ (target : Nat) :
    m.allTrees (len + 2) ip target =
      (List.range (min target m.maxLevel + 1)).reverse.flatMap fun l =>
        (m.chars ip l).zipIdx.flatMap fun (c, i) =>
          (m.allTrees (len + 1) (nextIp ip c) (target - l)).map (⟨ip, l, i⟩ :: ·) := by
  rw [Model.allTrees]
  unfold Model.chars
  cases m.cpOf ip with
  | none => simp
  | some e =>
    apply List.flatMap_congr'
    intro l _
    cases h : lvlChars e l <;> simp [h]

theorem allTrees_below (target : Nat) :
    m.allTrees (len + 2) ip target =
      below (m.lvlBlock (len + 1) ip target) (min target m.maxLevel + 1) :=
  allTrees_succ_succ m len ip target

theorem idxBlock_cons (rem l i : Nat) (c : Char) (cs : List Char) :
    m.idxBlock len ip rem l i (c :: cs) =
      (m.allTrees len (nextIp ip c) rem).map (⟨ip, l, i⟩ :: ·) ++ m.idxBlock len ip rem l (i + 1) cs := by
  simp [Model.idxBlock, List.zipIdx_cons]

theorem fillIdxs_eq (rem l : Nat) (rec : Str → Option (List Item))
    (hrec : ∀ ip', rec ip' = (m.allTrees len ip' rem).head?) (cs : List Char) (i : Nat) :
    fillIdxs rec ip l i cs = (m.idxBlock len ip rem l i cs).head? := by
  fun_induction fillIdxs rec ip l i cs with
  | case1 => rfl
  | case2 i c cs t h => rw [idxBlock_cons, List.head?_append, List.head?_map, ← hrec, h]; rfl
  | case3 i c cs h ih => rw [idxBlock_cons, List.head?_append, List.head?_map, ← hrec, h, ih]; rfl

theorem fillLevels_eq (target : Nat) (rec : Str → Nat → Option (List Item))
    (hrec : ∀ ip' tg, rec ip' tg = (m.allTrees len ip' tg).head?) :
    ∀ fuel cur, min cur m.maxLevel < fuel →
      m.fillLevels rec ip target fuel cur =
        (below (m.lvlBlock len ip target) (min cur m.maxLevel + 1)).head? := by
  intro fuel
  induction fuel with
  | zero => intro cur h; omega
  | succ fuel ih =>
    intro cur hf
    rw [Model.fillLevels]
    cases hfc : m.findCp ip cur 0 with
    | none =>
      rw [below_skip _ 0 (Nat.zero_le _) fun k _ hk => lvlBlock_of_none (findCp_none hfc k (Nat.zero_le _) (by omega))]
      rfl
    | some r =>
      obtain ⟨cs, l⟩ := r
      obtain ⟨_, hl, hcs, habove⟩ := findCp_some hfc
      simp only []
      -- the levels between `l` and `cur` list nothing: their blocks are empty, and the head is sought from block `l` down
      rw [fillIdxs_eq m len ip (target - l) l _ (fun ip' => hrec ip' (target - l)),
        below_skip _ (l + 1) (by omega) (fun k h1 h2 => lvlBlock_of_none (habove k h1 (by omega))),
        below_succ, List.head?_append, Model.lvlBlock, chars_of_some hcs]
      cases (m.idxBlock len ip (target - l) l 0 cs).head? with
      | some r => rfl
      | none =>
        by_cases h0 : l = 0
        · subst h0; rfl
        · have : min (l - 1) m.maxLevel + 1 = l := by omega
          simp only [h0, if_false, Option.none_or]
          rw [ih (l - 1) (by omega), this]

end

/-- the first tree `_fill_out_parse_tree` finds is the first tree of the specification list.  Without
`hne` this is false: for length 1 the code returns index 0 of a level without looking at its character
list (`OmenCore` checks a counterexample) -/
theorem fill_eq_head (m : Model) (hne : ∀ e ∈ m.cp, ∀ p ∈ e.2, p.2 ≠ [])
    (len : Nat) (ip : Str) (target : Nat) :
    m.fill len ip target = (m.allTrees len ip target).head? := by
  induction len generalizing ip target with
  | zero => rfl
  | succ len ih =>
    cases len with
    | zero =>
      rw [Model.fill, allTrees_one]
      cases hfc : m.findCp ip target target with
      | some r =>
        obtain ⟨cs, l⟩ := r
        obtain ⟨h1, h2, hcs, _⟩ := findCp_some hfc
        obtain rfl : l = target := by omega
        rw [if_pos (by omega), chars_of_some hcs]
        cases cs with
        | nil => exact absurd rfl (Model.NE.chars_ne hne hcs)
        | cons c cs => simp [List.range_succ_eq_map]
      | none =>
        by_cases hM : target ≤ m.maxLevel
        · rw [if_pos hM, chars_of_none (findCp_none hfc target (Nat.le_refl _) (by omega))]; rfl
        · rw [if_neg hM]; rfl
    | succ len =>
      rw [Model.fill, allTrees_below, fillLevels_eq m (len + 1) ip target _ ih (target + 1) target (by omega)]

end Omen
