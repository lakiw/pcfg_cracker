import PcfgVerif.Lemmas.ExpandLemmas
import PcfgVerif.Model.GridSpec
import PcfgVerif.Lemmas.ListFacts
/-! The links of C03 that are specific to the end-to-end claim: capitalisation (`applyMask_maskOf`), derivation
(`password_in_productSpec`: a piece is one step of `productSpec`, a word two), probability mass (`mass_product`). -/
namespace Pcfg

namespace Frag
open Generated.Expand
theorem maskKeeps_eq (c : Char) : maskKeeps c = (c == 'L') := rfl
theorem maskKeeps_L : maskKeeps 'L' = true := by rw [maskKeeps_eq]; decide
theorem maskKeeps_U : maskKeeps 'U' = false := by rw [maskKeeps_eq]; decide
theorem isMarkov_C : isMarkov 'C' = false := by rw [isMarkov_eq]; decide
theorem isCase_C : isCase 'C' = true := by rw [isCase_eq]; decide
end Frag

theorem splitTail_append (cur lw : Str) (h : lw ≠ []) :
    splitTail (cur ++ lw) lw.length = (cur, lw) := by
  rw [splitTail, if_neg (mt (List.length_eq_zero_iff.mp ∘ beq_iff_eq.mp) h), List.length_append,
    Nat.add_sub_cancel, List.take_left, List.drop_left]

section
variable {upper : Char → List Char} {cur v : Str}

theorem combine_plain {cat : Char} {first : Str} (hc : Generated.Expand.isCase cat = false) :
    combine upper cat first cur v = some (cur ++ v) := by
  simp [combine, hc]

theorem combine_case {first lw r : Str} (hlen : first.length = lw.length) (hne : lw ≠ [])
    (hm : applyMask upper lw v Generated.Expand.maskStart = some r) :
    combine upper 'C' first (cur ++ lw) v = some (cur ++ r) := by
  simp [combine, Frag.isCase_C, hlen, splitTail_append cur lw hne, hm]

end

/-- `orig` and its stored lower-casing `lw` are related letter by letter the way a one-to-one case
mapping relates them: an upper-case letter is recovered by `upper`, any other character is stored
unchanged -/
def TamePair (upper : Char → List Char) (isUpper : Char → Bool) : Str → Str → Prop
  | [], [] => True
  | c :: cs, l :: ls =>
    (if isUpper c then upper l = [c] else l = c) ∧ TamePair upper isUpper cs ls
  | _, _ => False

/-- the mask the trainer records for a word -/
def maskOf (isUpper : Char → Bool) (w : Str) : Str := w.map fun c => if isUpper c then 'U' else 'L'

theorem maskOf_cons (isUpper : Char → Bool) (c : Char) (cs : Str) :
    maskOf isUpper (c :: cs) = (if isUpper c then 'U' else 'L') :: maskOf isUpper cs := rfl

theorem TamePair.length_eq (upper : Char → List Char) (isUpper : Char → Bool) :
    ∀ (orig lw : Str), TamePair upper isUpper orig lw → orig.length = lw.length := by
  intro orig lw h
  -- the cases are the branches of `TamePair` in order
  fun_induction TamePair upper isUpper orig lw with
  | case1 => rfl
  | case2 c cs l ls ih => exact congrArg (· + 1) (ih h.2)
  | case3 => exact h.elim

theorem applyMask_cons_succ (upper : Char → List Char) (c : Char) (endW mask : Str) (i : Nat) :
    applyMask upper (c :: endW) mask (i + 1) = applyMask upper endW mask i := by
  induction mask generalizing i with
  | nil => rfl
  | cons m ms ih => rw [applyMask, applyMask, List.getElem?_cons_succ, Nat.add_right_comm, ih]

/-- the mask loop as a recursion over word and mask together -/
theorem applyMask_cons_cons (upper : Char → List Char) (l : Char) (ls : Str) (m : Char) (ms : Str) :
    applyMask upper (l :: ls) (m :: ms) Generated.Expand.maskStart =
      (applyMask upper ls ms Generated.Expand.maskStart).map
        ((if Generated.Expand.maskKeeps m then [l] else upper l) ++ ·) := by
  rw [applyMask, Frag.maskStep_eq, applyMask_cons_succ]
  cases applyMask upper ls ms Generated.Expand.maskStart <;> rfl

/-- C03 (capitalisation): applying the recorded mask to the stored lower-cased word gives back the
original word -/
theorem applyMask_maskOf (upper : Char → List Char) (isUpper : Char → Bool) (orig lw : Str)
    (h : TamePair upper isUpper orig lw) :
    applyMask upper lw (maskOf isUpper orig) Generated.Expand.maskStart = some orig := by
  fun_induction TamePair upper isUpper orig lw with
  | case1 => rfl
  | case2 c cs l ls ih =>
    obtain ⟨hc, ht⟩ := h
    rw [maskOf_cons, applyMask_cons_cons, ih ht, Option.map_some]
    split at hc
    · next hu => rw [if_pos hu, Frag.maskKeeps_U, if_neg Bool.false_ne_true, hc]; rfl
    · next hu => rw [if_neg hu, Frag.maskKeeps_L, if_pos rfl, hc]; rfl
  | case3 => exact h.elim

/-- a segment of a training password together with what the ruleset stores for it -/
inductive Piece where
  /-- digits, symbols, years, keyboard walks, context strings: stored as they are, variable `t`, group `i` -/
  | plain (t : String) (i : Nat) (v : Str)
  /-- a word: variable `A<n>` group `i` holds the lower-cased word, `C<n>` group `j` holds its mask -/
  | alpha (ta : String) (i : Nat) (tc : String) (j : Nat) (orig lw : Str)
deriving Repr

def Piece.text : Piece → Str
  | .plain _ _ v => v
  | .alpha _ _ _ _ orig _ => orig

def Piece.pt : Piece → PT
  | .plain t i _ => [(t, i)]
  | .alpha ta i tc j _ _ => [(ta, i), (tc, j)]

def Piece.InGrammar (upper : Char → List Char) (isUpper : Char → Bool) (g : EGrammar) : Piece → Prop
  | .plain t i v =>
    ∃ cat vals, t.toList.head? = some cat ∧ Generated.Expand.isMarkov cat = false ∧
      Generated.Expand.isCase cat = false ∧ g.values t i = some vals ∧ v ∈ vals
  | .alpha ta i tc j orig lw =>
    (∃ cat vals, ta.toList.head? = some cat ∧ Generated.Expand.isMarkov cat = false ∧
      Generated.Expand.isCase cat = false ∧ g.values ta i = some vals ∧ lw ∈ vals) ∧
    (∃ masks, tc.toList.head? = some 'C' ∧ g.values tc j = some masks ∧ maskOf isUpper orig ∈ masks ∧
      (masks.headD []).length = lw.length) ∧
    TamePair upper isUpper orig lw

/-- the stored word of an alpha piece is not the empty string (the trainer never stores an empty
segment).  Needed: for an empty group value `cur_guess[:-0]` is `''`, so the mask step would drop
everything generated so far (`ReproExample.counterexample_empty_word`). -/
def Piece.WordNonEmpty : Piece → Prop
  | .plain _ _ _ => True
  | .alpha _ _ _ _ _ lw => lw ≠ []

/-- C03 (derivation): if every segment of a password is in the ruleset's lists (the word lower-cased in
its alpha list, its mask in the mask list of the same length), then the password is one of the guesses
of the pre-terminal formed by those groups -/
theorem password_in_productSpec (upper : Char → List Char) (isUpper : Char → Bool) (g : EGrammar)
    (pieces : List Piece) (cur : Str) (h : ∀ p ∈ pieces, p.InGrammar upper isUpper g)
    (hne : ∀ p ∈ pieces, p.WordNonEmpty) :
    cur ++ pieces.flatMap Piece.text ∈ productSpec upper g cur (pieces.flatMap Piece.pt) := by
  induction pieces generalizing cur with
  | nil => simp [productSpec]
  | cons p ps ih =>
    obtain ⟨hp, hps⟩ := List.forall_mem_cons.mp h
    obtain ⟨hpne, hnes⟩ := List.forall_mem_cons.mp hne
    have ih := ih (cur ++ p.text) hps hnes
    rw [List.append_assoc] at ih
    rw [List.flatMap_cons, List.flatMap_cons]
    cases p with
    | plain t i v =>
      obtain ⟨cat, vals, hcat, _, hc, hv, hmem⟩ := hp
      exact mem_productSpec_cons hcat hv hmem (combine_plain hc) ih
    | alpha ta i tc j orig lw =>
      obtain ⟨⟨cat, vals, hcat, _, hc, hv, hmem⟩, ⟨masks, hcatC, hvC, hmemC, hlen⟩, htame⟩ := hp
      -- the word in lower case, then its mask puts the capitals back
      exact mem_productSpec_cons hcat hv hmem (combine_plain hc) (mem_productSpec_cons hcatC hvC hmemC
        (combine_case hlen hpne (applyMask_maskOf upper isUpper orig lw htame)) ih)

/-- total probability mass of a column: Σ_j p_j · n_j (group probability × number of values) -/
def colMass (col : List (Rat × Nat)) : Rat := (col.map fun pn => pn.1 * (pn.2 : Rat)).sum

/-- probability × number of guesses of the pre-terminal that picks group `idx_k` in column `k` -/
def nodeMass : List (List (Rat × Nat)) → List Nat → Rat
  | [], _ => 1
  | _ :: _, [] => 0
  | c :: cs, i :: is =>
    match c[i]? with
    | some pn => pn.1 * (pn.2 : Rat) * nodeMass cs is
    | none => 0

theorem nodeMass_cons (c : List (Rat × Nat)) (cs : List (List (Rat × Nat))) (i : Nat) (is : List Nat) :
    nodeMass (c :: cs) (i :: is) = (c[i]?.elim 0 fun pn => pn.1 * (pn.2 : Rat)) * nodeMass cs is := by
  rw [nodeMass]
  cases c[i]? with
  | none => exact (Rat.zero_mul _).symm
  | some pn => rfl

/-- C03 (mass): summed over all pre-terminals of a structure, probability × number of guesses is the
product of the column masses -/
theorem mass_product (cols : List (List (Rat × Nat))) :
    ((allIdx (cols.map fun c => c.map (·.1))).map (nodeMass cols)).sum = (cols.map colMass).prod := by
  induction cols with
  | nil => exact Rat.add_zero 1
  | cons c cs ih =>
    -- Σ_i Σ_is w_i · nodeMass cs is = (Σ_i w_i) · Σ_is nodeMass cs is, and the indices `i` run through the column
    rw [List.map_cons, allIdx, List.length_map, List.sum_map_flatMap, List.map_cons, List.prod_cons, ← ih]
    simp only [List.map_map, Function.comp_def, nodeMass_cons, List.sum_map_mul_left]
    rw [List.sum_map_mul_right, List.sum_range_getElem? c (·.elim 0 fun pn => pn.1 * (pn.2 : Rat))]
    rfl

theorem prod_ones (l : List Rat) (h : ∀ x ∈ l, x = 1) : l.prod = 1 := by
  induction l with
  | nil => rfl
  | cons x xs ih =>
    obtain ⟨hx, hxs⟩ := List.forall_mem_cons.mp h
    rw [List.prod_cons, hx, ih hxs, Rat.mul_one]

end Pcfg
