import PcfgVerif.Model.OmenCount
import PcfgVerif.Lemmas.OmenToTables
/-!
# The OMEN half of the trainer: the learned alphabet, and well-formed tables for every password list

`alphabetOf_spec`: what `AlphabetGenerator` (first pass) returns.  `CInv`: every (n−1)-gram key once, keys of length n−1,
every next letter once per key — an invariant of `AlphabetLookup.parse`.  With the clamp of `_calc_level`
(`lvl … ≤ maxLevel`) this is `TTables.Good` / `TTables.WF` of the smoothed tables: the hypothesis of the C11 / C18
theorems is a theorem for trainer-built tables.
-/
namespace Omen

theorem alphabetCounts_nodup (ngram : Nat) (pws : List Str) : ((alphabetCounts ngram pws).map (·.1)).Nodup := by
  -- both folds keep the letters distinct: a step leaves the dict alone or is `bumpChar`
  let P (d : List (Char × Nat)) := (d.map (·.1)).Nodup
  exact List.foldlRecOn (motive := P) pws _ List.nodup_nil fun d hd pw _ =>
    iteInduction (motive := P) (fun _ => hd) fun _ =>
      List.foldlRecOn (motive := P) pw _ hd fun d hd c _ =>
        iteInduction (motive := P) (fun _ => hd) fun _ => assocUpd_keys_nodup d c _ hd

/-- **the learned alphabet**: at most `size` letters, no letter twice, each one a counted letter, and in the order of the
stable sort by decreasing count (the letters kept are the most frequent ones, ties in first-seen order) -/
theorem alphabetOf_spec (size ngram : Nat) (pws : List Str) :
    (alphabetOf size ngram pws).length ≤ size ∧ (alphabetOf size ngram pws).Nodup ∧
    (∀ c ∈ alphabetOf size ngram pws, c ∈ (alphabetCounts ngram pws).map (·.1)) ∧
    alphabetOf size ngram pws =
      (((alphabetCounts ngram pws).mergeSort fun a b => decide (a.2 ≥ b.2)).take size).map (·.1) := by
  unfold alphabetOf
  -- the letters kept are a sublist of the sorted letters, and these a permutation of the counted ones
  have hsub := (List.take_sublist size ((alphabetCounts ngram pws).mergeSort fun a b => decide (a.2 ≥ b.2))).map (·.1)
  have hperm := (List.mergeSort_perm (alphabetCounts ngram pws) fun a b => decide (a.2 ≥ b.2)).map (·.1)
  refine ⟨?_, ?_, fun c hc => hperm.mem_iff.mp (hsub.subset hc), rfl⟩
  · rw [List.length_map, List.length_take]
    exact Nat.min_le_left _ _
  · exact (hperm.nodup_iff.mpr (alphabetCounts_nodup ngram pws)).sublist hsub

structure CInv (ngram : Nat) (es : List CEntry) : Prop where
  keys_nodup : (es.map (·.key)).Nodup
  key_len : ∀ e ∈ es, e.key.length = ngram - 1
  letters_nodup : ∀ e ∈ es, (e.next.map (·.1)).Nodup

section
variable {alphabet : List Char} {ngram : Nat} {es : List CEntry}

theorem CInv.map (h : CInv ngram es) {f : CEntry → CEntry}
    (hf : ∀ e, (f e).key = e.key ∧ ((e.next.map (·.1)).Nodup → ((f e).next.map (·.1)).Nodup)) :
    CInv ngram (es.map f) where
  keys_nodup := by
    rw [List.map_map]
    exact (List.map_congr_left fun e _ => (hf e).1) ▸ h.keys_nodup
  key_len := List.forall_mem_map.2 fun e he => (hf e).1 ▸ h.key_len e he
  letters_nodup := List.forall_mem_map.2 fun e he => (hf e).2 (h.letters_nodup e he)

theorem CInv.concat (h : CInv ngram es) {k : Str} (hlen : k.length = ngram - 1)
    (hnew : ¬ es.any (·.key == k) = true) : CInv ngram (es ++ [{ key := k }]) where
  keys_nodup := List.nodup_map_concat CEntry.key { key := k } h.keys_nodup hnew
  key_len := List.forall_mem_append.2 ⟨h.key_len, List.forall_mem_singleton.2 hlen⟩
  letters_nodup := List.forall_mem_append.2 ⟨h.letters_nodup, List.forall_mem_singleton.2 List.nodup_nil⟩

theorem updEntry_spec (a b : Bool) (c : Option Char) (e : CEntry) :
    (updEntry alphabet a b c e).key = e.key ∧
      ((e.next.map (·.1)).Nodup → ((updEntry alphabet a b c e).next.map (·.1)).Nodup) := by
  -- the `ip` step touches neither field
  suffices h : ∀ e : CEntry, (updEntry alphabet false b c e).key = e.key ∧
      ((e.next.map (·.1)).Nodup → ((updEntry alphabet false b c e).next.map (·.1)).Nodup) by
    cases a
    · exact h e
    · exact h { e with ip := e.ip + 1 }
  intro e
  have hb (d : List (Char × Nat)) ch := assocUpd_keys_nodup d ch fun o => o.getD 0 + 1
  unfold assocUpd at hb
  -- the branches in order; the second and third write what `bumpChar e.next ch` is when `ch` is there / is new
  fun_cases updEntry alphabet false b c e with
  | case1 => exact ⟨rfl, id⟩
  | case2 e1 _ ch hany => exact ⟨rfl, fun h => by have := hb e1.next ch h; rwa [if_pos hany] at this⟩
  | case3 e1 _ ch hany => exact ⟨rfl, fun h => by have := hb e1.next ch h; rwa [if_neg hany] at this⟩
  | case4 => exact ⟨rfl, id⟩
  | case5 => exact ⟨rfl, id⟩

theorem parseStep_inv {pw : Str} {t : CTables} {i : Nat} (hi : ngram - 1 ≤ pw.length - i)
    (h : CInv ngram t.entries) : CInv ngram (parseStep alphabet ngram pw t i).entries := by
  -- the (n−1)-gram is skipped, or its entry (a new last one if there was none) is updated
  fun_cases parseStep alphabet ngram pw t i with
  | case1 => exact h
  | case2 =>
    refine CInv.map ?_ fun e => ?_
    · refine iteInduction (motive := CInv ngram) (fun _ => h) fun hnew => h.concat ?_ hnew
      rw [List.length_take, List.length_drop]
      exact Nat.min_eq_left hi
    · split
      · exact updEntry_spec ..
      · exact ⟨rfl, id⟩

theorem parse_inv {minLength maxLength : Nat} {t : CTables} {pw : Str} (h : CInv ngram t.entries) :
    CInv ngram (parse alphabet ngram minLength maxLength t pw).entries := by
  fun_cases parse alphabet ngram minLength maxLength t pw with
  | case1 => exact h
  | case2 hg =>
    simp only [Bool.or_eq_true, decide_eq_true_eq, not_or, Nat.not_lt] at hg
    have hlen := Nat.le_trans (Nat.le_max_right ..) hg.1
    refine List.foldlRecOn (motive := fun t : CTables => CInv ngram t.entries) _ _ h fun t0 h0 i hi =>
      parseStep_inv ?_ h0
    -- `i ≤ pw.length - ngram + 1`, both sides taken from `pw.length`
    have := Nat.sub_le_sub_left (Nat.le_of_lt_succ (List.mem_range.mp hi)) pw.length
    rwa [Nat.sub_add_eq, Nat.sub_sub_self hlen] at this

theorem countTables_inv {minLength maxLength : Nat} {pws : List Str} :
    CInv ngram (countTables alphabet ngram minLength maxLength pws).entries :=
  List.foldlRecOn (motive := fun t : CTables => CInv ngram t.entries) pws _ ⟨List.nodup_nil, List.forall_mem_nil _, List.forall_mem_nil _⟩
    fun _ h _ _ => parse_inv h

end

theorem toTTables_good {lvl : Nat → Nat → Nat → Nat} {ngram maxLevel : Nat} (hn : 2 ≤ ngram)
    (hl : ∀ a b c, lvl a b c ≤ maxLevel) {t : CTables} (h : CInv ngram t.entries) :
    (t.toTTables lvl ngram maxLevel).Good where
  ngram_ge := hn
  keys_nodup := by rw [CTables.toTTables, List.map_map]; exact h.keys_nodup
  key_len := List.forall_mem_map.2 h.key_len
  letters_nodup := List.forall_mem_map.2 fun e he => by rw [List.map_map]; exact h.letters_nodup e he
  ip_levels := List.forall_mem_map.2 fun _ _ => hl _ _ _
  cp_levels := List.forall_mem_map.2 fun _ _ => List.forall_mem_map.2 fun _ _ => hl _ _ _
  ln_levels := List.forall_mem_map.2 fun _ _ =>
    iteInduction (motive := (· ≤ maxLevel)) (fun _ => Nat.le_refl _) fun _ => hl _ _ _

/-- **the smoothed tables of any password list are well-formed** (`lvl` = `_calc_level`, of which only the clamp to
`0..maxLevel` is used) -/
theorem trainTTables_good (lvl : Nat → Nat → Nat → Nat) (alphabetSize ngram minLength maxLength maxLevel : Nat)
    (hn : 2 ≤ ngram) (hl : ∀ a b c, lvl a b c ≤ maxLevel) (pws : List Str) :
    (trainTTables lvl alphabetSize ngram minLength maxLength maxLevel pws).Good :=
  toTTables_good hn hl countTables_inv

theorem clampLevel_le (raw : Int) (maxLevel : Nat) : clampLevel raw maxLevel ≤ maxLevel := by
  fun_cases clampLevel raw maxLevel with
  | case1 => exact Nat.le_refl _
  | case2 => exact Nat.zero_le _
  | case3 h => exact Int.toNat_le.2 (Int.not_lt.1 h)

theorem lvlOf_le (raw : Nat → Nat → Nat → Int) (maxLevel : Nat) (a b c : Nat) : lvlOf raw maxLevel a b c ≤ maxLevel :=
  clampLevel_le _ _

end Omen
