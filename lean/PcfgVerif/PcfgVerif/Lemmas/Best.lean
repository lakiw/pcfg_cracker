/-! Generic tie-break lemma: among candidates (key, position) with strictly increasing positions,
    exactly one is "not beaten" in the sense of `_are_you_my_child`. -/
namespace Best

structure Ord (P : Type) where
  le : P → P → Bool
  refl : ∀ a, le a a = true
  trans : ∀ a b c, le a b = true → le b c = true → le a c = true
  total : ∀ a b, le a b = true ∨ le b a = true

variable {P : Type} (O : Ord P)

def Ord.lt (a b : P) : Bool := !(O.le b a)
def Ord.eqv (a b : P) : Bool := O.le a b && O.le b a

/-- x = (key, pos) survives against y : the code's two `return False` tests do not fire -/
def survives (x y : P × Nat) : Bool :=
  !(O.lt y.1 x.1) && !(O.eqv y.1 x.1 && decide (y.2 < x.2))

/-- `_are_you_my_child` seen from candidate x: it survives against every other candidate -/
def unbeaten (xs : List (P × Nat)) (x : P × Nat) : Bool :=
  xs.all fun y => y.2 == x.2 || survives O x y

/-- scan keeping the first strict minimum -/
def argmin : List (P × Nat) → Option (P × Nat)
  | [] => none
  | x :: rest =>
    match argmin rest with
    | none => some x
    | some b => if O.lt b.1 x.1 then some b else some x

theorem argmin_mem : ∀ (xs : List (P × Nat)) b, argmin O xs = some b → b ∈ xs := by
  intro xs
  -- the branches of `argmin`: no candidate; none in the rest; the rest's minimum stays; the head wins
  fun_induction argmin O xs with
  | case1 => nofun
  | case3 _ _ b hr _ ih => rintro _ ⟨⟩; exact List.mem_cons_of_mem _ (ih b hr)
  | case2 | case4 => rintro _ ⟨⟩; exact List.mem_cons_self

theorem argmin_isSome (xs : List (P × Nat)) (x : P × Nat) (hx : x ∈ xs) : ∃ m, argmin O xs = some m := by
  fun_cases argmin O xs with
  | case1 => cases hx
  | case2 | case3 | case4 => exact ⟨_, rfl⟩

theorem lt_iff (a b : P) : O.lt a b = true ↔ O.le b a = false := by simp [Ord.lt]

theorem not_lt_of_le (a b : P) (h : O.le a b = true) : O.lt b a = false := by simp [Ord.lt, h]

theorem le_of_not_lt (a b : P) (h : O.lt a b = false) : O.le b a = true := by
  simpa [Ord.lt] using h

theorem lt_trans_le (a b c : P) (h1 : O.lt a b = true) (h2 : O.le b c = true) : O.lt a c = true :=
  (lt_iff O a c).mpr <| eq_false_of_ne_true fun h =>
    ne_true_of_eq_false ((lt_iff O a b).mp h1) (O.trans b c a h2 h)

theorem argmin_eq_none_iff (xs : List (P × Nat)) : argmin O xs = none ↔ xs = [] := by
  fun_cases argmin O xs <;> simp

theorem argmin_spec : ∀ (xs : List (P × Nat)), xs.Pairwise (fun a b => a.2 < b.2) →
    ∀ m, argmin O xs = some m →
      (∀ y ∈ xs, O.lt y.1 m.1 = false) ∧ (∀ y ∈ xs, O.eqv y.1 m.1 = true → m.2 ≤ y.2) := by
  intro xs
  fun_induction argmin O xs with
  | case1 => nofun
  | case2 x rest hr =>
    rintro _ _ ⟨⟩
    rw [(argmin_eq_none_iff O rest).mp hr]
    exact ⟨List.forall_mem_singleton.mpr (not_lt_of_le O _ _ (O.refl _)),
      List.forall_mem_singleton.mpr fun _ => Nat.le_refl _⟩
  | case3 x rest b hr hlt ih =>
    -- `b` is strictly below `x`, so `x` is neither below `b` nor tied with it
    rintro hp _ ⟨⟩
    have ⟨hb1, hb2⟩ := ih hp.of_cons b hr
    have hxb : O.le x.1 b.1 ≠ true := ne_true_of_eq_false ((lt_iff O _ _).mp hlt)
    exact ⟨List.forall_mem_cons.mpr ⟨not_lt_of_le O _ _ ((O.total x.1 b.1).resolve_left hxb), hb1⟩,
      List.forall_mem_cons.mpr ⟨fun he => absurd (Bool.and_eq_true_iff.mp he).1 hxb, hb2⟩⟩
  | case4 x rest b hr hnlt ih =>
    -- `x ≤ b ≤` every key of the rest, and `x` comes before the whole rest
    rintro hp _ ⟨⟩
    have hxb : O.le x.1 b.1 = true := le_of_not_lt O _ _ (eq_false_of_ne_true hnlt)
    exact ⟨List.forall_mem_cons.mpr ⟨not_lt_of_le O _ _ (O.refl _), fun y hy =>
        not_lt_of_le O _ _ (O.trans _ _ _ hxb (le_of_not_lt O _ _ ((ih hp.of_cons b hr).1 y hy)))⟩,
      List.forall_mem_cons.mpr
        ⟨fun _ => Nat.le_refl _, fun y hy _ => Nat.le_of_lt ((List.pairwise_cons.mp hp).1 y hy)⟩⟩

theorem pos_inj (xs : List (P × Nat)) (hp : xs.Pairwise (fun a b => a.2 < b.2))
    (a b : P × Nat) (ha : a ∈ xs) (hb : b ∈ xs) (h : a.2 = b.2) : a = b :=
  List.Pairwise.forall_of_forall_of_flip (R := fun a b => a.2 = b.2 → a = b) (fun _ _ _ => rfl)
    (hp.imp fun hlt h => absurd h (Nat.ne_of_lt hlt))
    (hp.imp fun hlt h => absurd h (Nat.ne_of_gt hlt)) ha hb h

theorem survives_iff (x y : P × Nat) :
    survives O x y = true ↔ (O.lt y.1 x.1 = false ∧ (O.eqv y.1 x.1 = true → ¬ y.2 < x.2)) := by
  simp only [survives, Bool.and_eq_true, Bool.not_eq_true', Bool.and_eq_false_imp,
    decide_eq_false_iff_not]

theorem unbeaten_iff (xs : List (P × Nat)) (x : P × Nat) :
    unbeaten O xs x = true ↔ ∀ y ∈ xs, y.2 ≠ x.2 → survives O x y = true := by
  simp only [unbeaten, List.all_eq_true, Bool.or_eq_true, beq_iff_eq, Decidable.or_iff_not_imp_left]

theorem unbeaten_iff_argmin (xs : List (P × Nat)) (hp : xs.Pairwise (fun a b => a.2 < b.2))
    (x : P × Nat) (hx : x ∈ xs) : unbeaten O xs x = true ↔ argmin O xs = some x := by
  obtain ⟨m, hm⟩ := argmin_isSome O xs x hx
  have ⟨h1, h2⟩ := argmin_spec O xs hp m hm
  have hmem := argmin_mem O xs m hm
  rw [unbeaten_iff, hm, Option.some.injEq]
  constructor
  · intro hu
    by_cases hpos : m.2 = x.2
    · exact pos_inj xs hp m x hmem hx hpos
    · -- `x` survives against the minimum `m`: it is tied with `m` and comes before it
      have hs := (survives_iff O x m).mp (hu m hmem hpos)
      have hmx : O.le m.1 x.1 = true := le_of_not_lt O _ _ (h1 x hx)
      have hxm : O.le x.1 m.1 = true := le_of_not_lt O _ _ hs.1
      exact absurd (Nat.lt_of_le_of_ne (h2 x hx (Bool.and_eq_true_iff.mpr ⟨hxm, hmx⟩)) hpos)
        (hs.2 (Bool.and_eq_true_iff.mpr ⟨hmx, hxm⟩))
  · rintro rfl y hy hne
    exact (survives_iff O m y).mpr ⟨h1 y hy, fun e => Nat.not_lt.mpr (h2 y hy e)⟩

end Best
