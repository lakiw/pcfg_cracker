import PcfgVerif.Lemmas.ParseLabelled
import PcfgVerif.Lemmas.TrainedAgree
/-! The base-structure loader model applied to the `grammar.txt` the trainer writes returns `Trainer.viewBases`: every line tokenises
because every key of the trainer's base-structure counter is a concatenation of section labels (`train_baseok`). -/
namespace Pcfg.Trainer
open Pcfg.Detect

/-- **the base-structure loader model, applied to the `grammar.txt` the trainer writes, returns `viewBases`** (default flags; every
structure key tokenises — true of every structure the trainer writes, `split_labels`) -/
theorem loadBase_returns_viewBases (parseP : CPs → Option Rat) (showP : Rat → CPs) (isAlpha : Nat → Bool)
    (hround : ∀ p, parseP (showP p) = some p) (cov : Rat) (n0 : Nat) (c : Counters)
    (hclean : ∀ it ∈ baseList cov n0 c.base, CleanItem (it.1, showP it.2))
    (hsplit : ∀ it ∈ baseList cov n0 c.base, (splitStructure isAlpha it.1 []).isSome) :
    ∃ bs, loadBase parseP ratArith isAlpha false (writeFile ((baseList cov n0 c.base).map fun it => (it.1, showP it.2))) = some bs ∧
      bs.map (fun b => (b.replacements.map strOf, b.prob)) = viewBases isAlpha cov n0 c := by
  refine ⟨_, loadBase_written parseP ratArith isAlpha ratArith_div_one showP hround _ hclean hsplit, ?_⟩
  rw [List.map_map, List.map_filterMap]
  congr 1
  funext it
  cases splitStructure isAlpha it.1 [] <;> rfl

def BaseOK (b : SCtr) : Prop :=
  ∀ p ∈ b, ∃ labels : List String, (∀ l ∈ labels, ∃ text, LabelOK text l) ∧ p.1 = String.join labels

theorem train_baseok (U : UEnv) (cfg : MWCfg) (pws : List CPs) (hpw : ∀ pw ∈ pws, pw ≠ [] ∧ LenPres U pw) :
    BaseOK (train U cfg pws).base := by
  intro p hp
  obtain ⟨pw, hmem, h⟩ := train_base_keys U cfg pws p hp
  rw [h, parse_structure]
  exact ⟨_, parse_labels U cfg _ pw (hpw pw hmem).1 (hpw pw hmem).2, rfl⟩

theorem baseList_keys_split (isAlpha : Nat → Bool) (hcap : ∀ c, 65 ≤ c → c ≤ 90 → isAlpha c = true)
    (hdig : ∀ c, 48 ≤ c → c ≤ 57 → isAlpha c = false) (cov : Rat) (n0 : Nat) (b : SCtr) (hb : BaseOK b) :
    ∀ it ∈ baseList cov n0 b, (splitStructure isAlpha it.1 []).isSome := by
  intro it hit
  rcases baseList_keys cov n0 b it hit with h | ⟨q, hq, h⟩
  · rw [h, show cpsOfString "M" = [77] from rfl, splitStructure, hcap 77 (by decide) (by decide)]
    rfl
  · obtain ⟨labels, hl, hj⟩ := hb q hq
    rw [h, hj, split_labels isAlpha hcap hdig labels hl]; rfl

end Pcfg.Trainer
