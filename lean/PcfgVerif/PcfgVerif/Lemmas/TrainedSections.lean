import PcfgVerif.Lemmas.Labels
import PcfgVerif.Lemmas.TrainedCounts
import PcfgVerif.Lemmas.WrittenLists
import PcfgVerif.Lemmas.Runs
/-!
# The terminal sections of a trained ruleset

A ruleset has seven terminal sections, each a letter with a length-indexed counter (`cats`; `Years` and `Context` hold the single
file `1.txt`).  The scorer's lists (`scoreGOf`) and the guesser's columns (`viewCols`) are these same sections under two naming
functions and two table maps (`secMap`), so a look-up by name in either is the same look-up in the sections (`sel`, `find_secMap`).
-/
namespace Pcfg.Trainer
open Pcfg.Detect

def secMap {β : Type} (nm : Char → Nat → String) (f : MWTable → β) (secs : List (Char × LenCtr)) : List (String × β) :=
  secs.flatMap fun s => s.2.map fun e => (nm s.1 e.1, f e.2)

/-- the entry a look-up under (letter, length) lands on: the one of that length in the section of that letter -/
def sel (secs : List (Char × LenCtr)) (ch : Char) (n : Nat) : Option (Nat × MWTable) :=
  ((secs.lookup ch).getD []).find? (·.1 == n)

theorem find_secMap {β : Type} (nm : Char → Nat → String) (hinj : ∀ {a b n m}, nm a n = nm b m → a = b ∧ n = m)
    (f : MWTable → β) (secs : List (Char × LenCtr)) (hnd : (secs.map (·.1)).Nodup) (ch : Char) (n : Nat) :
    (secMap nm f secs).find? (·.1 == nm ch n) = (sel secs ch n).map fun e => (nm ch e.1, f e.2) := by
  induction secs with
  | nil => rfl
  | cons s rest ih =>
    rw [List.map_cons, List.nodup_cons] at hnd
    show ((s.2.map fun e => (nm s.1 e.1, f e.2)) ++ secMap nm f rest).find? _ = _
    rw [List.find?_append, List.find?_map, ih hnd.2, sel, sel, List.lookup_cons]
    by_cases hc : ch = s.1
    · -- in the section of that letter the name is found where the length is; no later section has the letter
      subst hc
      have hp : ((fun x : String × β => x.1 == nm s.1 n) ∘ fun e : Nat × MWTable => (nm s.1 e.1, f e.2)) = fun e => e.1 == n :=
        funext fun e => decide_eq_decide.mpr ⟨fun h => (hinj h).2, congrArg (nm s.1)⟩
      have hr : rest.lookup s.1 = none :=
        List.lookup_eq_none_iff.mpr fun p hp => bne_iff_ne.mpr fun e => hnd.1 (List.mem_map.mpr ⟨p, hp, e.symm⟩)
      rw [hp, hr, beq_self_eq_true]
      exact Option.or_none
    · -- a section of another letter holds no such name
      have hp : s.2.find? ((fun x : String × β => x.1 == nm ch n) ∘ fun e : Nat × MWTable => (nm s.1 e.1, f e.2)) = none :=
        List.find?_eq_none.mpr fun e _ h => hc (hinj (beq_iff_eq.mp h)).1.symm
      rw [hp, beq_eq_false_iff_ne.mpr hc]
      rfl

/-- the terminal sections of a ruleset; `Years` and `Context` hold the single file `1.txt` -/
def cats (c : Counters) : List (Char × LenCtr) :=
  [('K', c.keyboard), ('A', c.alpha), ('C', c.masks), ('D', c.digits), ('O', c.other), ('Y', [(1, c.years)]), ('X', [(1, c.context)])]

theorem cats_nodup (c : Counters) : ((cats c).map (·.1)).Nodup := by simp [cats]

theorem scoreGOf_eq (cov : Rat) (n0 : Nat) (c : Counters) :
    scoreGOf cov n0 c = secMap scLbl listOf (cats c) ++ [("B", baseList cov n0 c.base)] := by
  have h : ∀ ch, ch ≠ 'Y' → ch ≠ 'X' → ∀ d : LenCtr, (d.map fun e => (scLbl ch e.1, listOf e.2)) = lenLists ch d :=
    fun ch h1 h2 d => List.map_congr_left fun e _ => by rw [scLbl, scName_lbl ch e.1 h1 h2]
  simp [scoreGOf, secMap, cats, h, scLbl_Y, scLbl_X]

theorem look_scoreGOf (cov : Rat) (n0 : Nat) (c : Counters) (ch : Char) (n : Nat) (v : CPs) :
    ScoreG.look (scoreGOf cov n0 c) 0 (scLbl ch n) v = ((sel (cats c) ch n).map fun e => lookIn (listOf e.2) v).getD 0 := by
  unfold ScoreG.look
  rw [scoreGOf_eq, List.find?_append, find_secMap scLbl scLbl_inj listOf _ (cats_nodup c)]
  cases sel (cats c) ch n with
  | some e => rfl
  | none =>
    have : ("B" == scLbl ch n) = false := beq_eq_false_iff_ne.mpr fun e => scLbl_ne_B ch n e.symm
    simp [this]

theorem look_scoreGOf_B (cov : Rat) (n0 : Nat) (c : Counters) (k : CPs) :
    ScoreG.look (scoreGOf cov n0 c) 0 "B" k = lookIn (baseList cov n0 c.base) k := by
  have hnone : (secMap scLbl listOf (cats c)).find? (·.1 == "B") = none := by
    refine List.find?_eq_none.mpr fun x hx => ?_
    obtain ⟨s, _, hx⟩ := List.mem_flatMap.mp hx
    obtain ⟨e, _, rfl⟩ := List.mem_map.mp hx
    simpa using scLbl_ne_B s.1 e.1
  unfold ScoreG.look
  rw [scoreGOf_eq, List.find?_append, hnone]
  rfl

/-- `hd` holds by `rfl` for each of the seven letters -/
theorem listed_of_count (cov : Rat) (n0 : Nat) (c : Counters) (ch : Char) (d : LenCtr) (hd : (cats c).lookup ch = some d)
    (hp : LPos d) (n : Nat) (v : CPs) (hv : 0 < (d.get n).count v) : ScoreG.look (scoreGOf cov n0 c) 0 (scLbl ch n) v ≠ 0 := by
  rw [look_scoreGOf, sel, hd, Option.getD_some]
  unfold LenCtr.get at hv
  cases hf : d.find? (·.1 == n) with
  | none => rw [hf] at hv; exact absurd hv (Nat.lt_irrefl 0)
  | some e =>
    rw [hf] at hv
    exact listOf_ne_zero e.2 (hp e (List.mem_of_find?_eq_some hf)) v hv

def lenMap {β : Type} (ch : Char) (d : LenCtr) (f : MWTable → β) : List (String × β) := d.map fun e => (lbl ch e.1, f e.2)

theorem lenLists_eq (ch : Char) (d : LenCtr) : lenLists ch d = lenMap ch d listOf := rfl

def colOf (t : MWTable) : List (List CPs × Rat) := runs (listOf t)

/-- every terminal column the guesser loads, under the guesser's variable names -/
def viewCols (c : Counters) : List (String × List (List CPs × Rat)) :=
  lenMap 'K' c.keyboard colOf ++ (lenMap 'A' c.alpha colOf ++ (lenMap 'C' c.masks colOf ++ (lenMap 'D' c.digits colOf ++
    (lenMap 'O' c.other colOf ++ [("Y1", colOf c.years), ("X1", colOf c.context)]))))

def viewE (c : Counters) : EGrammar := (viewCols c).map fun e => (e.1, e.2.map fun g => g.1.map toStr)

def viewP (c : Counters) (l : String) : List Rat := (((viewCols c).find? (·.1 == l)).map fun e => e.2.map (·.2)).getD []

theorem viewCols_eq (c : Counters) : viewCols c = secMap lbl colOf (cats c) := by
  simp [viewCols, secMap, cats, lenMap, lbl_Y1, lbl_X1]

theorem find_viewCols (c : Counters) (ch : Char) (n : Nat) :
    (viewCols c).find? (·.1 == lbl ch n) = (sel (cats c) ch n).map fun e => (lbl ch e.1, colOf e.2) := by
  rw [viewCols_eq, find_secMap lbl lbl_inj2 colOf _ (cats_nodup c)]

theorem values_viewE (c : Counters) (ch : Char) (n j : Nat) :
    (viewE c).values (lbl ch n) j = (sel (cats c) ch n).bind fun e => ((colOf e.2)[j]?).map fun g => g.1.map toStr := by
  unfold EGrammar.values EGrammar.groups viewE
  rw [List.find?_map]
  show ((((viewCols c).find? (·.1 == lbl ch n)).map _).map _).bind _ = _
  rw [find_viewCols]
  cases sel (cats c) ch n with
  | none => rfl
  | some e => exact List.getElem?_map ..

theorem viewP_lbl (c : Counters) (ch : Char) (n : Nat) :
    viewP c (lbl ch n) = ((sel (cats c) ch n).map fun e => (colOf e.2).map (·.2)).getD [] := by
  unfold viewP
  rw [find_viewCols]
  cases sel (cats c) ch n <;> rfl

end Pcfg.Trainer
