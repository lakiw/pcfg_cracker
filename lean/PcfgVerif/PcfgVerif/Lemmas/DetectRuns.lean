import PcfgVerif.Lemmas.DetectLoop
/-! `other_detection`, `firstRun` (the search of the digit and the alpha detector), and the digit detector. -/
namespace Pcfg.Detect

/-- `other_detection` labels every remaining section `O<length>` and changes nothing else -/
theorem otherDetection_spec (secs : List Sec) :
    AllLabelled (otherDetection secs).1 ∧
    (otherDetection secs).1.map (·.1) = secs.map (·.1) ∧
    (otherDetection secs).2 = (secs.filter (fun s => s.2.isNone)).map (·.1) := by
  induction secs with
  | nil => exact ⟨nofun, rfl, rfl⟩
  | cons a r ih =>
    obtain ⟨ih1, ih2, ih3⟩ := ih
    obtain ⟨x, _ | l⟩ := a
    · exact ⟨List.forall_mem_cons.mpr ⟨rfl, ih1⟩, congrArg (x :: ·) ih2, congrArg (x :: ·) ih3⟩
    · exact ⟨List.forall_mem_cons.mpr ⟨rfl, ih1⟩, congrArg (x :: ·) ih2, ih3⟩

theorem mem_otherDetection_snd {secs : List Sec} {o : CPs} (h : o ∈ (otherDetection secs).2) :
    ∃ s ∈ secs, s.2 = none ∧ s.1 = o := by
  rw [(otherDetection_spec secs).2.2] at h
  obtain ⟨s, hs, rfl⟩ := List.mem_map.mp h
  exact ⟨s, (List.mem_filter.mp hs).1, by simpa using (List.mem_filter.mp hs).2, rfl⟩

theorem otherDetection_tiles (U : UEnv) (pw : CPs) (secs : List Sec) {off : Nat}
    (h : TilesFrom U pw off secs) : TilesFrom U pw off (otherDetection secs).1 := by
  induction secs generalizing off with
  | nil => exact h
  | cons a r ih =>
    obtain ⟨⟨p1, p2, p3, _⟩, h2⟩ := h
    rcases a with ⟨x, _ | l⟩
    · exact ⟨⟨p1, p2, fun _ => p3 (by simp), fun hW => absurd (Option.some.inj hW) (lbl_ne_W _ _)⟩, ih h2⟩
    · exact ⟨⟨p1, p2, p3, ‹_›⟩, ih h2⟩

theorem other_labelled (secs : List Sec) :
    (labelled (otherDetection secs).1).Perm
      (((otherDetection secs).2.map fun v => (lbl 'O' v.length, v)) ++ labelled secs) := by
  induction secs with
  | nil => exact .refl _
  | cons a r ih =>
    obtain ⟨x, _ | l⟩ := a
    · exact ih.cons _
    · exact (ih.cons _).trans List.perm_middle.symm

theorem firstRun_none (p : Nat → Bool) (w : CPs) (h : firstRun p w = none) : ∀ c ∈ w, p c = false := by
  unfold firstRun at h
  simp only at h
  split at h
  · cases h
  · exact List.findIdx_eq_length.mp (by have := @List.findIdx_le_length _ p w; omega)

theorem findIdx_spec {α : Type} (q : α → Bool) (l : List α) :
    (∀ c ∈ l.take (l.findIdx q), q c = false) ∧ ∀ c, (l.drop (l.findIdx q)).head? = some c → q c = true :=
  ⟨fun c hc => by
    obtain ⟨i, hi, rfl⟩ := List.mem_take_iff_getElem.mp hc
    exact List.not_of_lt_findIdx (by omega),
   fun c hc => List.findIdx_of_getElem?_eq_some (by rwa [List.head?_drop] at hc)⟩

/-- the run found: where it is, that it is a run, and that it can be extended on neither side -/
theorem firstRun_spec {p : Nat → Bool} {w : CPs} {s e : Nat} (h : firstRun p w = some (s, e)) :
    s ≤ e ∧ e < w.length ∧ (∀ c ∈ w.take s, p c = false) ∧ (∀ c ∈ slice w s (e + 1), p c = true) ∧
      (∀ c, (w.drop (e + 1)).head? = some c → p c = false) := by
  unfold firstRun at h
  simp only at h
  split at h
  case isFalse => cases h
  rename_i hlt
  obtain ⟨rfl, rfl⟩ := Prod.mk.inj (Option.some.inj h)
  -- behind the first hit of `p` the run goes up to the first hit of `!p`
  obtain ⟨hrun, hpost⟩ := findIdx_spec (fun c => !p c) (w.drop (w.findIdx p))
  have hkl := List.findIdx_le_length (p := fun c => !p c) (xs := w.drop (w.findIdx p))
  have hk0 : 0 < (w.drop (w.findIdx p)).findIdx fun c => !p c := by
    rw [List.drop_eq_getElem_cons hlt, List.findIdx_cons, List.findIdx_getElem (p := p)]; exact Nat.succ_pos _
  rw [List.takeWhile_eq_take_findIdx_not, List.length_take, Nat.min_eq_left hkl]
  rw [List.length_drop] at hkl
  generalize (w.drop (w.findIdx p)).findIdx (fun c => !p c) = k at *
  rw [show w.findIdx p + k - 1 + 1 = w.findIdx p + k by omega, ← List.drop_drop]
  refine ⟨by omega, by omega, (findIdx_spec p w).1, fun c hc => ?_, fun c hc => ?_⟩
  · rw [slice, Nat.add_sub_cancel_left] at hc
    simpa using hrun c hc
  · simpa using hpost c hc

theorem take_slice_drop (w : CPs) {s e : Nat} (h : s ≤ e) : w.take s ++ slice w s e ++ w.drop e = w := by
  rw [slice, List.append_assoc, show w.drop e = (w.drop s).drop (e - s) by rw [List.drop_drop, Nat.add_sub_cancel' h],
    List.take_append_drop, List.take_append_drop]

theorem detectDigits_cut (U : UEnv) (text : CPs) (pieces : List Sec) (d : CPs)
    (h : detectDigits U text = some (pieces, d)) :
    ∃ s e, firstRun U.isDigit text = some (s, e) ∧ d = slice text s (e + 1) ∧
      pieces = cut text s (e + 1) [(d, some (lbl 'D' d.length))] := by
  unfold detectDigits at h
  split at h
  · cases h
  · next s e hfr =>
    simp only [Option.some.injEq, Prod.mk.injEq] at h
    have he := (firstRun_spec hfr).2.1
    refine ⟨s, e, hfr, h.2.symm, ?_⟩
    rw [← h.1, ← h.2]
    exact cut_eq text s (e + 1) _ _ _ (by simp) (by simp; omega)

theorem detectDigits_ok (U : UEnv) : DetectorOK U (detectDigits U) := by
  intro text pieces f _ _ h
  obtain ⟨s, e, hfr, rfl, rfl⟩ := detectDigits_cut U text pieces f h
  obtain ⟨hse, he, _⟩ := firstRun_spec hfr
  exact tiles_cut U text s (e + 1) _ (List.cons_ne_nil _ _) (by omega) (by omega)
    (tilesFrom_cons_slice U text s (e + 1) _ (by simpa using lbl_ne_W _ _) (by omega) (by omega))

theorem detectDigits_labelled (U : UEnv) (text : CPs) (pieces : List Sec) (d : CPs)
    (h : detectDigits U text = some (pieces, d)) : labelled pieces = [(lbl 'D' d.length, d)] := by
  obtain ⟨s, e, _, rfl, rfl⟩ := detectDigits_cut U text pieces d h
  exact labelled_cut _ _ _ _

def NoDigit (U : UEnv) (text : CPs) : Prop := ∀ c ∈ text, U.isDigit c = false

/-- whatever else is known of the sections (and passes to substrings), `digit_detection` leaves no digit unlabelled -/
theorem detectDigits_exhausts (U : UEnv) (Good : CPs → Prop) (hG : ∀ text a b, Good text → Good (slice text a b)) :
    Exhausts (detectDigits U) Good (NoDigit U) where
  good_slice := hG
  none_clean text _ h := by
    unfold detectDigits at h
    split at h
    · next hfr => exact firstRun_none _ _ hfr
    · cases h
  some_cut text pieces d _ h := by
    obtain ⟨s, e, hfr, rfl, rfl⟩ := detectDigits_cut U text pieces d h
    obtain ⟨hse, he, hpre, _⟩ := firstRun_spec hfr
    exact ⟨s, e + 1, _, rfl, by omega, by simp, List.cons_ne_nil _ _, by simp; omega, fun _ => hpre⟩

end Pcfg.Detect
