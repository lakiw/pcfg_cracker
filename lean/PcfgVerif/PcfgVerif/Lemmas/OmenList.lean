import PcfgVerif.Lemmas.ListFacts
/-!
# Lists that a function walks

`Walks next L`: the function `next` steps through the list `L`.  The enumerators of the OMEN generator
(parse trees of one block, cursor positions, (cursor, tree) pairs) are proved correct in this form; the lists they walk are
concatenations of blocks, whence `flatMap_split`.
-/
namespace Omen

def Walks {α : Type} (next : α → Option α) (L : List α) : Prop :=
  ∀ pre a suf, L = pre ++ a :: suf → next a = suf.head?

theorem append_split {α : Type} {A B pre suf : List α} {t : α} (h : A ++ B = pre ++ t :: suf) :
    (∃ s1, A = pre ++ t :: s1 ∧ suf = s1 ++ B) ∨ (∃ p2, pre = A ++ p2 ∧ B = p2 ++ t :: suf) := by
  rcases List.append_eq_append_iff.mp h with ⟨a', h1, h2⟩ | ⟨c', h1, h2⟩
  · exact Or.inr ⟨a', h1, h2⟩
  · cases c' with
    | nil => exact Or.inr ⟨[], by simpa using h1.symm, by simpa using h2.symm⟩
    | cons x c'' =>
      simp at h2
      obtain ⟨rfl, rfl⟩ := h2
      exact Or.inl ⟨c'', h1, rfl⟩

theorem flatMap_split {α β : Type} {f : α → List β} :
    ∀ {l : List α} {pre suf : List β} {x : β}, l.flatMap f = pre ++ x :: suf →
      ∃ l1 a l2 p s, l = l1 ++ a :: l2 ∧ f a = p ++ x :: s ∧ suf = s ++ l2.flatMap f
  | [], pre, suf, x, h => by simp at h
  | a :: l, pre, suf, x, h => by
    rw [List.flatMap_cons] at h
    rcases append_split h with ⟨s1, h1, h2⟩ | ⟨p2, _, h2⟩
    · exact ⟨[], a, l, pre, s1, rfl, h1, h2⟩
    · obtain ⟨l1, b, l2, p, s, h3, h4, h5⟩ := flatMap_split h2
      exact ⟨a :: l1, b, l2, p, s, by rw [h3]; rfl, h4, h5⟩

theorem map_split {α β : Type} {g : α → β} {X : List α} {pre suf : List β} {t : β}
    (h : X.map g = pre ++ t :: suf) :
    ∃ p t' s, X = p ++ t' :: s ∧ g t' = t ∧ s.map g = suf := by
  obtain ⟨l1, l2, rfl, _, h2⟩ := List.map_eq_append_iff.mp h
  obtain ⟨a, l3, rfl, h3, h4⟩ := List.map_eq_cons_iff.mp h2
  exact ⟨l1, a, l3, rfl, h3, h4⟩

theorem nodup_flatMap_map {α β γ : Type} (mk : α → β → γ) (hmk : ∀ a b x y, mk a x = mk b y → a = b ∧ x = y)
    {l : List α} (hl : l.Nodup) {f : α → List β} (h : ∀ a ∈ l, (f a).Nodup) :
    (l.flatMap fun a => (f a).map (mk a)).Nodup := by
  refine List.nodup_flatMap hl (fun a ha => List.nodup_map_of_injective (fun _ _ e => (hmk _ _ _ _ e).2) (h a ha)) ?_
  intro a _ b _ hab y hy hy'
  obtain ⟨_, _, rfl⟩ := List.mem_map.1 hy
  obtain ⟨_, _, e⟩ := List.mem_map.1 hy'
  exact hab (hmk _ _ _ _ e).1.symm

theorem Walks.getElem? {α : Type} {next : α → Option α} {L : List α} (h : Walks next L) {i : Nat}
    {a : α} (ha : L[i]? = some a) : next a = L[i + 1]? := by
  obtain ⟨hi, rfl⟩ := List.getElem?_eq_some_iff.mp ha
  rw [h (L.take i) L[i] (L.drop (i + 1)) (by simp)]
  simp [List.head?_drop]

theorem Walks.of_getElem? {α : Type} {next : α → Option α} {L : List α}
    (h : ∀ i a, L[i]? = some a → next a = L[i + 1]?) : Walks next L := by
  rintro pre a suf rfl
  rw [h pre.length a (by simp), List.getElem?_append_right (Nat.le_add_right _ 1), Nat.add_sub_cancel_left,
    List.getElem?_cons_succ, List.head?_eq_getElem?]

end Omen
