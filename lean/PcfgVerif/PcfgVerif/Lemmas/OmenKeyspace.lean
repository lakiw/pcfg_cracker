import PcfgVerif.Lemmas.OmenTrainerLevel
import PcfgVerif.Lemmas.OmenLevel
/-!
# OMEN trainer: the recorded keyspace

`recKeyspace` counts the strings of a block (`recKeyspace_eq_strs`), the tabulated form agrees with
it (`lookupRow_ksRow`), and `levelKeyspace` is the number of strings of the level: `levelList` lists them block by
block as `calc_omen_keyspace` adds them up, so its length is visibly `levelKeyspace`; a block holds the strings of one
length and initial n-gram that the trainer puts at the level (`mem_block_iff`), so the list has no duplicates and the
right members, and any other duplicate-free list with the same members is as long (`levelKeyspace_eq_of_exact`).
`emitted_spec` puts this together with `level_settles`.
-/
namespace Omen

theorem sum_by_level (next : List (Char × Nat)) (lv : List Nat) (hlv : lv.Nodup) (G : Char → Nat → Nat) :
    (lv.map fun l => (((next.filter (·.2 == l)).map (·.1)).map fun c => G c l).sum).sum =
      (next.map fun p => if p.2 ∈ lv then G p.1 p.2 else 0).sum := by
  induction next with
  | nil => simp
  | cons p rest ih =>
    rw [List.map_cons, List.sum_cons, ← ih, ← List.sum_indicator lv hlv p.2 (G p.1 p.2), ← List.sum_map_add']
    refine congrArg List.sum (List.map_congr_left fun l _ => ?_)
    by_cases h : p.2 = l <;> simp [h]

/-- C18 (per block): the recursive keyspace count is the number of strings of that block, one for each parse tree -/
theorem recKeyspace_eq_strs (t : TTables) (hg : t.Good) :
    ∀ (len : Nat) (ip : Str) (level : Nat),
      t.recKeyspace len ip level = (t.toTables.m.strs len ip level).length
  | 0, _, _ => by rw [strs_zero]; rfl
  | 1, ip, level => by
    rw [strs_one (toTables_WF t hg).entriesWF, List.length_map, toTables_chars t hg, TTables.recKeyspace]
    cases t.entry ip with
    | none => rfl
    | some e => exact (List.length_map _).symm
  | len + 2, ip, level => by
    rw [strs_succ_succ, TTables.recKeyspace, toTables_maxLevel]
    simp only [List.length_flatMap, List.length_map, toTables_chars t hg, ← recKeyspace_eq_strs t hg (len + 1)]
    cases h : t.entry ip with
    | none => exact (List.sum_map_const_zero _).symm
    | some e =>
      simp only [TEntry.charsAt]
      rw [sum_by_level e.next _ (List.nodup_reverse.2 List.nodup_range)
        (fun c l => t.recKeyspace (len + 1) (nextIp ip c) (level - l))]
      refine congrArg List.sum (List.map_congr_left ?_)
      rintro ⟨c, l⟩ hp
      -- `l ≤ maxLevel` in any case, so the generator's `min level maxLevel` is the count's `level`
      have := hg.cp_levels e (entry_some h).1 _ hp
      simp only [List.mem_reverse, List.mem_range, Nat.lt_succ_iff, Nat.le_min, and_iff_left this]

theorem lookupRow_map (t : TTables) (r : TEntry → List Nat) (ip : Str) (level : Nat) :
    lookupRow (t.entries.map fun e => (e.key, r e)) ip level =
      match t.entry ip with
      | none => 0
      | some e => (r e).getD level 0 := by
  simp only [lookupRow, TTables.entry, List.find?_map, Function.comp_def]
  cases t.entries.find? (·.key == ip) <;> rfl

/-- the tabulated (memoised) computation equals the recursive definition: for any table and any
prefix (for a prefix that is not a key both sides are 0) -/
theorem lookupRow_ksRow (t : TTables) (maxL : Nat) :
    ∀ (len : Nat) (ip : Str) (level : Nat), level ≤ maxL →
      lookupRow (t.ksRow maxL len) ip level = t.recKeyspace len ip level
  | 0, ip, level, _ => by
    rw [TTables.ksRow, lookupRow_map, TTables.recKeyspace]
    cases t.entry ip with
    | none => rfl
    | some e =>
      simp only [List.getD_eq_getElem?_getD, List.getElem?_replicate]
      split <;> rfl
  | 1, ip, level, hl => by
    rw [TTables.ksRow, lookupRow_map, TTables.recKeyspace]
    cases t.entry ip with
    | none => rfl
    | some e => exact (List.getD_map_range ..).trans (if_pos (Nat.lt_succ_of_le hl))
  | len + 2, ip, level, hl => by
    rw [TTables.ksRow, lookupRow_map, TTables.recKeyspace]
    cases h : t.entry ip with
    | none => rfl
    | some e =>
      refine (List.getD_map_range ..).trans ((if_pos (Nat.lt_succ_of_le hl)).trans ?_)
      rw [(entry_some h).2]
      refine congrArg List.sum (List.map_congr_left ?_)
      rintro ⟨c, l⟩ _
      simp only []
      split
      · exact lookupRow_ksRow t maxL (len + 1) _ _ (Nat.le_trans (Nat.sub_le _ _) hl)
      · rfl

/-- the strings with initial n-gram `e.key`, length `i + 1` and level `level` -/
def TTables.block (t : TTables) (level : Nat) (e : TEntry) (i : Nat) : List Str :=
  if e.ipLevel ≤ level then
    if i + 1 < t.ngram then []
    else if t.lns.getD i 0 ≤ level - e.ipLevel then
      t.toTables.m.block e.key (i + 1 - t.ngram + 1) (level - e.ipLevel - t.lns.getD i 0)
    else []
  else []

def TTables.levelList (t : TTables) (level : Nat) : List Str :=
  t.entries.flatMap fun e => (List.range t.lns.length).flatMap (t.block level e)

/-- the left side is how `calc_omen_keyspace` splits a level (initial n-gram, then length, the rest for the
transitions), the right side how `find_omen_level` adds it up -/
theorem level_split {a b c L : Nat} : a ≤ L ∧ b ≤ L - a ∧ c = L - a - b ↔ b + a + c = L := by
  constructor
  · rintro ⟨ha, hb, rfl⟩
    rw [Nat.add_comm b a, Nat.sub_sub, Nat.add_sub_cancel' (Nat.add_le_of_le_sub' ha hb)]
  · rintro rfl
    rw [Nat.add_comm b a, Nat.add_assoc, Nat.add_sub_cancel_left, Nat.add_sub_cancel_left]
    exact ⟨Nat.le_add_right _ _, Nat.le_add_right _ _, rfl⟩

section
variable (t : TTables) (hg : t.Good) (level : Nat)
include hg

theorem length_levelList : (t.levelList level).length = t.levelKeyspace level := by
  simp only [TTables.levelList, TTables.block, TTables.levelKeyspace, List.length_flatMap,
    apply_ite List.length, List.length_nil, Model.block, List.length_map, recKeyspace_eq_strs t hg]
  refine congrArg List.sum (List.map_congr_left fun e _ => ?_)
  -- the test on the initial level does not depend on the length
  by_cases hl : e.ipLevel ≤ level
  · simp only [if_pos hl]
  · simp only [if_neg hl, List.sum_map_const_zero]

/-- a block holds the strings of its length and initial n-gram that `find_omen_level` puts at `level` -/
theorem TTables.mem_block_iff {e : TEntry} (he : e ∈ t.entries) {i : Nat} (hi : i < t.lns.length) (y : Str) :
    y ∈ t.block level e i ↔
      y.length = i + 1 ∧ y.take (t.ngram - 1) = e.key ∧ t.trainerLevel y = some level := by
  have hn : 0 < t.ngram := Nat.lt_of_lt_of_le Nat.zero_lt_two hg.ngram_ge
  -- the `length - ngram + 1` further letters the count asks for and the initial n-gram make up the length
  have hA (h1 : t.ngram ≤ i + 1) : i + 1 - t.ngram + 1 + (t.ngram - 1) = i + 1 := by
    rw [Nat.add_right_comm, Nat.add_assoc, Nat.sub_add_cancel hn, Nat.sub_add_cancel h1]
  rw [trainerLevel_eq_some_iff]
  simp only [TTables.block, List.mem_ite_nil_left, List.mem_ite_nil_right, Nat.not_lt,
    mem_block (toTables_WF t hg).entriesWF, toTables_transCost t hg, hg.key_len e he, List.length_drop]
  constructor
  · rintro ⟨hl, h1, h2, h3, hy, h4, h5⟩
    have hlen := ((Nat.sub_eq_iff_eq_add (Nat.le_of_lt h3)).1 h4).trans (hA h1)
    rw [hlen, Nat.add_sub_cancel]
    exact ⟨rfl, hy, h1, hi, hi, e, _, hy ▸ entry_of_mem hg.keys_nodup he, hy.symm ▸ h5,
      level_split.1 ⟨hl, h2, rfl⟩⟩
  · rintro ⟨hlen, hy, h1, -, -, e', c, he', hc, hL⟩
    rw [hy, entry_of_mem hg.keys_nodup he] at he'
    cases he'
    rw [hlen] at h1
    rw [hlen, Nat.add_sub_cancel] at hL
    obtain ⟨hl, h2, rfl⟩ := level_split.2 hL
    have h3 : t.ngram - 1 < y.length := hlen ▸ Nat.sub_one_lt_of_le hn h1
    exact ⟨hl, h1, h2, h3, hy, (Nat.sub_eq_iff_eq_add (Nat.le_of_lt h3)).2 (hlen.trans (hA h1).symm), hy ▸ hc⟩

theorem TTables.nodup_block (e : TEntry) (i : Nat) : (t.block level e i).Nodup := by
  simp only [TTables.block, apply_ite List.Nodup, List.nodup_nil, Omen.nodup_block (toTables_WF t hg).entriesWF,
    ite_self]

/-- blocks of different lengths or different initial n-grams share no string -/
theorem nodup_levelList : (t.levelList level).Nodup := by
  have h {e i} he hi {y} := (t.mem_block_iff hg level (e := e) he (i := i) (List.mem_range.1 hi) y).1
  refine List.nodup_flatMap (List.nodup_of_nodup_map hg.keys_nodup) (fun e he => ?_) fun a ha b hb hab y hy hy' => ?_
  · refine List.nodup_flatMap List.nodup_range (fun i _ => t.nodup_block hg level e i) fun i hi j hj hij y hy hy' => ?_
    exact hij (Nat.succ.inj ((h he hi hy).1.symm.trans (h he hj hy').1))
  · obtain ⟨i, hi, hy⟩ := List.mem_flatMap.1 hy
    obtain ⟨j, hj, hy'⟩ := List.mem_flatMap.1 hy'
    exact hab (List.eq_of_nodup_map hg.keys_nodup ha hb ((h ha hi hy).2.1.symm.trans (h hb hj hy').2.1))

theorem mem_levelList_iff (s : Str) :
    s ∈ t.levelList level ↔ t.trainerLevel s = some level := by
  simp only [TTables.levelList, List.mem_flatMap, List.mem_range]
  constructor
  · rintro ⟨e, he, i, hi, hs⟩
    exact ((t.mem_block_iff hg level he hi s).1 hs).2.2
  · intro h
    obtain ⟨h1, -, hi, e, -, he, -⟩ := (trainerLevel_eq_some_iff t s level).1 h
    obtain ⟨hem, hek⟩ := entry_some he
    exact ⟨e, hem, _, hi, (t.mem_block_iff hg level hem hi s).2
      ⟨(Nat.sub_add_cancel (Nat.le_trans (Nat.le_of_lt hg.ngram_ge) h1)).symm, hek.symm, h⟩⟩

theorem levelKeyspace_eq_of_exact (l : List Str) (hnd : l.Nodup) (hmem : ∀ s, s ∈ l ↔ t.trainerLevel s = some level) :
    l.length = t.levelKeyspace level := by
  rw [← length_levelList t hg level]
  exact ((List.perm_ext_iff_of_nodup hnd (nodup_levelList t hg level)).2 fun s => by
    rw [hmem, mem_levelList_iff t hg]).length_eq

theorem levelKeyspace_pos {s : Str} (h : t.trainerLevel s = some level) : 0 < t.levelKeyspace level := by
  rw [← length_levelList t hg level]
  exact List.length_pos_of_mem ((mem_levelList_iff t hg level s).2 h)

end

/-- C11 (trainer = guesser) and C18 (keyspace) in one: started from the beginning over `toTables`, the
generator settles on a list that holds exactly the strings the trainer puts at `level`, each once; their
number is the keyspace `calc_omen_keyspace` records for the level -/
theorem emitted_spec (t : TTables) (hg : t.Good) (level : Nat) (s0 : CState)
    (hs : t.toTables.start = some s0) :
    ∃ E N, (∀ fuel, N ≤ fuel → t.toTables.enumFrom level fuel s0 = E) ∧ E.Nodup ∧
      (∀ s, s ∈ E ↔ t.trainerLevel s = some level) ∧ E.length = t.levelKeyspace level := by
  obtain ⟨E, N, h1, h2, h3⟩ := level_settles t.toTables (t.ngram - 1) (toTables_WF t hg) level s0 hs
  simp only [levelOf_eq_trainerLevel t hg] at h3
  exact ⟨E, N, h1, h2, h3, levelKeyspace_eq_of_exact t hg level E h2 h3⟩

end Omen
