import PcfgVerif.Lemmas.GridAdopt
import PcfgVerif.Lemmas.GridWalk
/-! The rebuilt queue `restoreNodes g m mn` is (a permutation of) the roots of the grid system
restricted to the nodes of probability ≤ m. -/
namespace Pcfg
variable {P : Type} [Inhabited P] (A : PAlg P) (g : Grid P)

/-- the adopter is a least probable parent: it is above `m` iff every parent is -/
theorem gridSys_adopter_above_iff (m : P) {v : Node} (hv : ValidNode g v) :
    (∀ p, (gridSys A g).adopter v = some p → A.le (nodeProb A.toPOps g p) m = false) ↔
      isParentAround A.toPOps (g.struct v.b) v.idx m = false := by
  rw [isParentAround_false_iff, gridSys_adopter]
  constructor
  · intro h pos hpos
    obtain ⟨p, hp, hle⟩ := adopterIdx_least A _ hv.2 hpos
    exact Bool.eq_false_iff.mpr
      (mt (A.le_trans _ _ _ hle) (Bool.eq_false_iff.mp (h ⟨v.b, p⟩ (by rw [hp]; rfl))))
  · intro h p hp
    obtain ⟨i, hi, rfl⟩ := Option.map_eq_some_iff.mp hp
    obtain ⟨_, k, hk, rfl, _⟩ := adopterIdx_eq_some.mp hi
    exact h k hk

def restoreSys (m : P) : Adopt.Sys Node :=
  (gridSys A g).restrict fun v => A.le (nodeProb A.toPOps g v) m

theorem mem_restoreSys_all (m : P) (v : Node) :
    v ∈ (restoreSys A g m).all ↔ ValidNode g v ∧ A.le (nodeProb A.toPOps g v) m = true := by
  show v ∈ (allNodes g).filter _ ↔ _
  rw [List.mem_filter, mem_allNodes]

theorem restoreNodes_perm (hwf : WF A.toPOps g) (m mn : P)
    (hmin : ∀ v, ValidNode g v → A.lt (nodeProb A.toPOps g v) mn = false) :
    (restoreNodes A.toPOps g m mn).Perm (restoreSys A g m).roots := by
  have hnd : (restoreNodes A.toPOps g m mn).Nodup := nodup_perStruct _ _ fun b hb =>
    nodup_restoreWalk (hwf.struct b) (fun i hi => hmin ⟨b, i⟩ ⟨hb, hi⟩) _ _ _
      (validIdx_rootIdx (hwf.struct b))
  have hnd2 : (restoreSys A g m).roots.Nodup :=
    (restoreSys A g m).all_nodup.sublist List.filter_sublist
  refine (List.perm_ext_iff_of_nodup hnd hnd2).mpr fun v => ?_
  show v ∈ (List.range g.length).flatMap _ ↔ _
  rw [mem_perStruct, restoreSys, Adopt.mem_restrict_roots, mem_gridSys_all, ValidNode, and_assoc]
  -- both sides: a valid vector at or below `m`; the walk adds that no parent is,
  -- the roots that the adopter is not
  refine and_congr_right fun hb => ?_
  rw [mem_restoreWalk_root (hwf.struct _) fun i hi => hmin ⟨v.b, i⟩ ⟨hb, hi⟩]
  exact and_congr_right fun hv => and_congr_right fun _ =>
    (gridSys_adopter_above_iff A g m ⟨hb, hv⟩).symm

theorem restoreSys_children_ok (hwf : WF A.toPOps g) (m : P) :
    ∀ x ∈ (restoreSys A g m).all,
      (nodeChildren A.toPOps g x).Perm ((restoreSys A g m).children x) := by
  intro x hx
  rw [mem_restoreSys_all] at hx
  rw [restoreSys, Adopt.restrict_children _ _
    (fun v p hvp hp => A.le_trans _ _ _ (gridSys_le A g hwf v p hvp) hp) x hx.2]
  exact nodeChildren_perm A g x ((mem_gridSys_all A g x).mpr hx.1)

theorem restoreSys_le (hwf : WF A.toPOps g) (m : P) :
    ∀ v p, (restoreSys A g m).adopter v = some p →
      A.le (nodeProb A.toPOps g v) (nodeProb A.toPOps g p) = true :=
  fun v p h => gridSys_le A g hwf v p (Option.filter_eq_some_iff.mp h).1

end Pcfg
