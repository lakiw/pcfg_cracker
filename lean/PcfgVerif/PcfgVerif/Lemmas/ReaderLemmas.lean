import PcfgVerif.Model.Reader
import PcfgVerif.Lemmas.TextLemmas
/-! `read_password` takes the count off the line, decodes a `$HEX[..]` spelling, then tests the password: `readLine_false` /
`readLine_true` are the first step in each mode, `pwResult` is what the other two make of a count and a text, `lineResult` what the
last makes of a count and a password.  The forms of a line that C19 speaks of (`readLine_plain`, `readLine_hex`, `readLine_counted`)
are rewritten through them. -/
namespace Pcfg
open Generated.Reader

theorem defaultCount_eq : defaultCount = 1 := rfl
theorem hexDropFront_eq : hexDropFront = 5 := rfl
theorem hexDropBack_eq : hexDropBack = 1 := rfl
theorem countTok_eq : countTok = 0 := rfl
theorem restTok_eq : restTok = 1 := rfl
theorem yieldFrom_eq : yieldFrom = 0 := rfl
theorem prefixOn_eq (b : Bool) : prefixOn b = b := by cases b <;> rfl

theorem hexPrefix_length : hexPrefix.length = 5 := rfl

theorem startsWith_append (pre s : CPs) : startsWith (pre ++ s) pre = true := by
  simp [startsWith]

theorem endsWith_append (s suf : CPs) : endsWith (s ++ suf) suf = true := by
  simp [endsWith]

theorem pySplit_tok (sep : Nat) (tok rest : CPs) (htok : ∀ c ∈ tok, c ≠ sep) :
    pySplit sep (tok ++ sep :: rest) = tok :: pySplit sep rest := by
  simp [pySplit, splitOnCp_field sep tok rest [] htok]

theorem joinSp_cons_of_ne_nil (a : CPs) (l : List CPs) (hl : l ≠ []) :
    joinSp (a :: l) = a ++ [0x20] ++ joinSp l := by
  cases l with
  | nil => exact absurd rfl hl
  | cons b rest => rfl

theorem joinSp_splitOnCp (p cur : CPs) : joinSp (splitOnCp 0x20 p cur) = cur.reverse ++ p := by
  -- the cases are the branches of `splitOnCp` in order: end of the text, a blank, another character
  fun_induction splitOnCp 0x20 p cur with
  | case1 cur => exact (List.append_nil _).symm
  | case2 c rest cur hc ih =>
    rw [joinSp_cons_of_ne_nil _ _ (splitOnCp_ne_nil _ _ _), ih, beq_iff_eq.mp hc, List.append_assoc]
    rfl
  | case3 c rest cur hc ih => rw [ih, List.reverse_cons, List.append_assoc]; rfl

theorem joinSp_pySplit (p : CPs) : joinSp (pySplit 0x20 p) = p := by
  simp [pySplit, joinSp_splitOnCp]

/-- `$HEX[` ++ hex digits ++ `]` -/
def hexLine (h : CPs) : CPs := hexPrefix ++ h ++ [0x5d]

/-- the line does not end in CR / LF (so `rstrip('\r\n')` removes only the line end) -/
def NoTrailEol (p : CPs) : Prop := ∀ c, p.getLast? = some c → c ≠ 0x0d ∧ c ≠ 0x0a

def NotHexForm (p : CPs) : Prop := (startsWith p hexPrefix && endsWith p [0x5d]) = false

/-- result of a line that denotes password `p` with multiplicity `n` -/
def lineResult (R : RParams) (n : Int) (p : CPs) : List CPs × Int × Int :=
  if !(R.encodable p) then ([], 0, n)
  else if !(checkValid p) then ([], 0, 0)
  else (List.replicate n.toNat p, n, 0)

/-- result of a line whose text behind the count is `pw`, plain or `$HEX[..]` (the digits are `pw[5:-1]`), with multiplicity `n` -/
def pwResult (R : RParams) (n : Int) (pw : CPs) : List CPs × Int × Int :=
  match (if startsWith pw hexPrefix && endsWith pw [0x5d] then
      R.hexDecode ((pw.drop 5).take (pw.length - 5 - 1)) else some pw) with
  | none => ([], 0, n)
  | some p => lineResult R n p

theorem NoTrailEol.contains {p : CPs} (ht : NoTrailEol p) :
    ∀ c, p.getLast? = some c → [0x0d, 0x0a].contains c = false := by
  intro c hc
  have := ht c hc
  simp [this.1, this.2]

theorem rstrip_lf (p : CPs) (ht : NoTrailEol p) : rstripChars [0x0d, 0x0a] (p ++ [0x0a]) = p :=
  rstripChars_append _ _ _ (by decide) ht.contains

theorem NoTrailEol.sp_append (s p : CPs) (ht : NoTrailEol p) : NoTrailEol (s ++ [0x20] ++ p) := by
  intro c hc
  rw [List.getLast?_append, List.getLast?_concat] at hc
  cases hp : p.getLast? with
  | none => rw [hp] at hc; cases hc; decide
  | some x => rw [hp] at hc; cases hc; exact ht _ hp

theorem hexLine_noTrailEol (h : CPs) : NoTrailEol (hexLine h) := by
  intro c hc
  rw [hexLine, List.getLast?_concat] at hc
  cases hc; decide

variable (R : RParams)

theorem readLine_false (line : CPs) :
    readLine R false line = pwResult R 1 (rstripChars [0x0d, 0x0a] line) := by
  simp only [readLine, prefixOn_eq, defaultCount_eq, hexDropFront_eq, hexDropBack_eq, yieldFrom_eq,
    Int.sub_zero, Bool.false_eq_true, if_false]
  rfl

/-- `int(s.split(' ')[0])`, `' '.join(s.split(' ')[1:])` for the stripped line `s` (`split` yields at least one piece) -/
theorem readLine_true (line tok : CPs) (rest : List CPs)
    (hs : pySplit 0x20 (lstripWs (rstripChars [0x0d, 0x0a] line)) = tok :: rest) :
    readLine R true line =
      match R.parseInt tok with
      | none => ([], 0, 0)
      | some n => pwResult R n (joinSp rest) := by
  simp only [readLine, hs, prefixOn_eq, countTok_eq, restTok_eq, hexDropFront_eq, hexDropBack_eq,
    yieldFrom_eq, Int.sub_zero, if_true, List.getElem?_cons_zero, List.drop_succ_cons, List.drop_zero]
  cases R.parseInt tok <;> rfl

theorem pwResult_of_notHex (n : Int) {q : CPs} (hnf : NotHexForm q) : pwResult R n q = lineResult R n q := by
  rw [pwResult, hnf]
  rfl

theorem pwResult_hexLine (n : Int) (h : CPs) :
    pwResult R n (hexLine h) =
      match R.hexDecode h with
      | none => ([], 0, n)
      | some p => lineResult R n p := by
  have hform : (startsWith (hexLine h) hexPrefix && endsWith (hexLine h) [0x5d]) = true := by
    rw [hexLine, endsWith_append, List.append_assoc, startsWith_append]; rfl
  have hslice : ((hexLine h).drop 5).take ((hexLine h).length - 5 - 1) = h := by
    rw [hexLine, List.append_assoc, List.drop_left' hexPrefix_length, List.length_append, hexPrefix_length,
      Nat.add_sub_cancel_left, List.length_append, List.length_singleton, Nat.add_sub_cancel, List.take_left]
  rw [pwResult, hform, if_pos rfl, hslice]

theorem readLine_plain (p : CPs) (ht : NoTrailEol p) (hh : NotHexForm p) :
    readLine R false (p ++ [0x0a]) = lineResult R 1 p := by
  rw [readLine_false, rstrip_lf p ht, pwResult_of_notHex R 1 hh]

theorem readLine_hex (h : CPs) :
    readLine R false (hexLine h ++ [0x0a]) =
      match R.hexDecode h with
      | none => ([], 0, 1)
      | some p => lineResult R 1 p := by
  rw [readLine_false, rstrip_lf _ (hexLine_noTrailEol h), pwResult_hexLine]

/-- with `--prefixcount`, the line `<ws> count ' ' p`: inner, leading and trailing spaces of `p` are kept -/
theorem readLine_counted (lead tok p : CPs) (hlead : ∀ c ∈ lead, isPySpace c = true)
    (htok : tok ≠ [] ∧ ∀ c ∈ tok, isPySpace c = false ∧ c ≠ 0x20) (ht : NoTrailEol p) :
    readLine R true (lead ++ tok ++ [0x20] ++ p ++ [0x0a]) =
      match R.parseInt tok with
      | none => ([], 0, 0)
      | some n => pwResult R n p := by
  have hl : lstripWs (lead ++ tok ++ [0x20] ++ p) = tok ++ 0x20 :: p := by
    rw [List.append_assoc, List.append_assoc]
    refine lstripWs_append lead (tok ++ 0x20 :: p) hlead fun c hc => ?_
    cases tok with
    | nil => exact absurd rfl htok.1
    | cons a r => cases hc; exact (htok.2 _ (List.mem_cons_self ..)).1
  rw [readLine_true R _ tok (pySplit 0x20 p), joinSp_pySplit]
  rw [rstrip_lf _ (ht.sp_append _ p), hl, pySplit_tok _ _ _ fun c hc => (htok.2 c hc).2]

/-- C19 (count prefix): with `--prefixcount`, the line `<ws> count ' ' p` denotes `p` with the parsed multiplicity -/
theorem readLine_count (lead tok p : CPs) (n : Int)
    (hlead : ∀ c ∈ lead, isPySpace c = true)
    (htok : tok ≠ [] ∧ ∀ c ∈ tok, isPySpace c = false ∧ c ≠ 0x20)
    (hn : R.parseInt tok = some n) (ht : NoTrailEol p) (hnf : NotHexForm p) :
    readLine R true (lead ++ tok ++ [0x20] ++ p ++ [0x0a]) = lineResult R n p := by
  rw [readLine_counted R lead tok p hlead htok ht, hn]
  exact pwResult_of_notHex R n hnf

theorem lineResult_nat (n : Nat) (p : CPs) :
    (lineResult R n p).1 = (List.replicate n (lineResult R 1 p).1).flatten ∧
      (lineResult R n p).2.1 = n * (lineResult R 1 p).2.1 := by
  unfold lineResult
  split
  · simp
  · split <;> simp

theorem mem_lineResult {n : Int} {p q : CPs} (h : q ∈ (lineResult R n p).1) :
    checkValid q = true ∧ R.encodable q = true := by
  unfold lineResult at h
  split at h
  · cases h
  · split at h
    · cases h
    · next he hv =>
      cases List.eq_of_mem_replicate h
      simpa using And.intro hv he

theorem readLine_cases (pc : Bool) (line : CPs) :
    (readLine R pc line).1 = [] ∨ ∃ n p, readLine R pc line = lineResult R n p := by
  unfold readLine
  simp only [yieldFrom_eq, Int.sub_zero]
  split
  · exact .inl rfl
  · split
    · exact .inl rfl
    · exact .inr ⟨_, _, rfl⟩

theorem readLines_singleton (pc : Bool) (l : CPs) :
    readLines R pc [l] = ⟨(readLine R pc l).1, (readLine R pc l).2.1, (readLine R pc l).2.2⟩ := by
  simp [readLines]

theorem readLines_replicate (pc : Bool) (l : CPs) (n : Nat) :
    (readLines R pc (List.replicate n l)).out = (List.replicate n (readLine R pc l).1).flatten ∧
      (readLines R pc (List.replicate n l)).numPasswords = n * (readLine R pc l).2.1 := by
  induction n with
  | zero => simp [readLines]
  | succ k ih => simp [List.replicate_succ, readLines, ih.1, ih.2, Int.add_mul, Int.add_comm]

theorem readLines_append (pc : Bool) (l1 l2 : List CPs) :
    readLines R pc (l1 ++ l2) =
      ⟨(readLines R pc l1).out ++ (readLines R pc l2).out,
       (readLines R pc l1).numPasswords + (readLines R pc l2).numPasswords,
       (readLines R pc l1).numErrors + (readLines R pc l2).numErrors⟩ := by
  induction l1 with
  | nil => simp [readLines]
  | cons a l ih =>
    simp only [List.cons_append, readLines, ih, List.append_assoc, Int.add_assoc]

end Pcfg
