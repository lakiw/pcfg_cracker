import PcfgVerif.Lemmas.WrittenFile
/-! The list loaders on a file the trainer writes (C07).  The scorer's (`scorerLoad`) returns the written pairs.  The guesser's
`_load_from_file` keeps the probability of the group it is filling (`prev`): a line whose probability compares equal to it joins the
group, any other line opens the next one.  On a written file the loop is `groups` of the parsed lines, and what the theorems say of a
loaded list file are facts about `groups`. -/
namespace Pcfg
variable {P : Type}

/-- C07 (scorer): the scorer's loader returns every (value, probability) pair that was written -/
theorem scorerLoad_writeFile (parseP : CPs → Option P) (items : List (CPs × CPs))
    (hc : ∀ it ∈ items, CleanValue it.1 ∧ CleanProb it.2) (hp : ∀ it ∈ items, (parseP it.2).isSome) :
    scorerLoad parseP (writeFile items) = some (parsed parseP items) := by
  unfold scorerLoad
  rw [codecLines_writeFile items hc]
  induction items with
  | nil => rfl
  | cons it items ih =>
    obtain ⟨hcl, hc⟩ := List.forall_mem_cons.mp hc
    obtain ⟨hq, hp⟩ := List.forall_mem_cons.mp hp
    obtain ⟨q, hq⟩ := Option.isSome_iff_exists.mp hq
    rw [List.map_cons, scorerLoop, any_surrogate_writeLine it.1 it.2 hcl.1 hcl.2, split_writeLine it.1 it.2 hcl.1 hcl.2,
      ih hc hp, parsed_cons parseP it items q hq]
    simp [hq]

def pairs (gs : List (LGroup P)) : List (CPs × P) :=
  gs.flatMap fun g => g.values.map fun v => (v, g.prob)

theorem pairs_cons (g : LGroup P) (gs : List (LGroup P)) : pairs (g :: gs) = g.values.map (fun v => (v, g.prob)) ++ pairs gs := by
  simp [pairs]

theorem pairs_append (a b : List (LGroup P)) : pairs (a ++ b) = pairs a ++ pairs b := by
  simp [pairs]

section
variable (parseP : CPs → Option P) (eqv : P → P → Bool)

theorem loadLoop_writeLine_cons (it : CPs × CPs) (rest : List CPs) (prev : P) (sec : List (LGroup P))
    (hcl : CleanValue it.1 ∧ CleanProb it.2) (p : P) (hq : parseP it.2 = some p) :
    loadLoop parseP eqv (writeLine it.1 it.2 :: rest) false prev sec =
      if eqv p prev = true then
        match appendToLast sec it.1 with
        | none => none
        | some sec' => loadLoop parseP eqv rest false prev sec'
      else loadLoop parseP eqv rest false p (sec ++ [⟨[it.1], p⟩]) := by
  simp only [loadLoop, Bool.false_eq_true, if_false, any_surrogate_writeLine it.1 it.2 hcl.1 hcl.2,
    split_writeLine it.1 it.2 hcl.1 hcl.2, hq]
  rfl

theorem appendToLast_snoc (init : List (LGroup P)) (g : LGroup P) (v : CPs) :
    appendToLast (init ++ [g]) v = some (init ++ [{ g with values := g.values ++ [v] }]) := by
  simp [appendToLast]

/-- the groups formed of the lines that follow an open group (values `vs`, probability `q`) -/
def groupsFrom (vs : List CPs) (q : P) : List (CPs × P) → List (LGroup P)
  | [] => [⟨vs, q⟩]
  | (v, p) :: rest => if eqv p q then groupsFrom (vs ++ [v]) q rest else ⟨vs, q⟩ :: groupsFrom [v] p rest

/-- the groups `_load_from_file` forms of parsed lines -/
def groups : List (CPs × P) → List (LGroup P)
  | [] => []
  | (v, p) :: rest => groupsFrom eqv [v] p rest

theorem loadLoop_written (items : List (CPs × CPs))
    (hc : ∀ it ∈ items, CleanValue it.1 ∧ CleanProb it.2) (hp : ∀ it ∈ items, ∃ p, parseP it.2 = some p)
    (init : List (LGroup P)) (vs : List CPs) (q : P) :
    loadLoop parseP eqv (items.map fun it => writeLine it.1 it.2) false q (init ++ [⟨vs, q⟩]) =
      some (init ++ groupsFrom eqv vs q (parsed parseP items)) := by
  induction items generalizing init vs q with
  | nil => rfl
  | cons it items ih =>
    obtain ⟨hcl, hc⟩ := List.forall_mem_cons.mp hc
    obtain ⟨⟨p, hq⟩, hp⟩ := List.forall_mem_cons.mp hp
    rw [List.map_cons, loadLoop_writeLine_cons parseP eqv it _ q _ hcl p hq, parsed_cons parseP it items p hq, groupsFrom]
    by_cases he : eqv p q = true
    · rw [if_pos he, if_pos he, appendToLast_snoc]
      exact ih hc hp init _ q
    · rw [if_neg he, if_neg he, ih hc hp (init ++ [(⟨vs, q⟩ : LGroup P)]) [it.1] p, List.append_assoc]
      rfl

/-- **the guesser's loader on a written file returns the groups of the written lines**; the error-recovery branch (`error_flag`) is
never taken.  The first probability must differ from the start value of `prev` (−1 in the source: else `IndexError` on the empty
section); `hp` asks it of every line, as the C07 statements do -/
theorem loadFromFile_eq_groups (neg1 : P) (items : List (CPs × CPs)) (hc : ∀ it ∈ items, CleanValue it.1 ∧ CleanProb it.2)
    (hp : ∀ it ∈ items, ∃ p, parseP it.2 = some p ∧ eqv p neg1 = false) :
    loadFromFile parseP eqv neg1 (writeFile items) = some (groups eqv (parsed parseP items)) := by
  unfold loadFromFile
  rw [codecLines_writeFile items hc]
  cases items with
  | nil => rfl
  | cons it items =>
    obtain ⟨hcl, hc⟩ := List.forall_mem_cons.mp hc
    obtain ⟨⟨p, hq, hne⟩, hp⟩ := List.forall_mem_cons.mp hp
    rw [List.map_cons, loadLoop_writeLine_cons parseP eqv it _ neg1 _ hcl p hq, hne, parsed_cons parseP it items p hq]
    exact loadLoop_written parseP eqv items hc (fun x hx => let ⟨p, hq, _⟩ := hp x hx; ⟨p, hq⟩) [] [it.1] p

variable (vs : List CPs) (q : P) (l : List (CPs × P))

-- In the inductions on `groupsFrom` (and `stored`) the cases are its branches in order: no line left, the line joins, the line opens.

theorem groupsFrom_values : (groupsFrom eqv vs q l).flatMap (·.values) = vs ++ l.map (·.1) := by
  fun_induction groupsFrom eqv vs q l with
  | case1 => simp
  | case2 _ _ _ _ _ _ ih => rw [ih, List.append_assoc]; rfl
  | case3 _ _ _ _ _ _ ih => rw [List.flatMap_cons, ih]; rfl

theorem groupsFrom_ne (hvs : vs ≠ []) : ∀ g ∈ groupsFrom eqv vs q l, g.values ≠ [] := by
  fun_induction groupsFrom eqv vs q l with
  | case1 => exact List.forall_mem_singleton.mpr hvs
  | case2 _ _ _ _ _ _ ih => exact ih (by simp)
  | case3 _ _ _ _ _ _ ih => exact List.forall_mem_cons.mpr ⟨hvs, ih (by simp)⟩

theorem groupsFrom_head : ∃ ws tl, groupsFrom eqv vs q l = ⟨ws, q⟩ :: tl := by
  fun_induction groupsFrom eqv vs q l with
  | case1 vs q => exact ⟨vs, [], rfl⟩
  | case2 _ _ _ _ _ _ ih => exact ih
  | case3 vs _ _ _ _ _ _ => exact ⟨vs, _, rfl⟩

theorem groupsFrom_adj (i : Nat) (g1 g2 : LGroup P)
    (h1 : (groupsFrom eqv vs q l)[i]? = some g1) (h2 : (groupsFrom eqv vs q l)[i + 1]? = some g2) :
    eqv g2.prob g1.prob = false := by
  fun_induction groupsFrom eqv vs q l generalizing i with
  | case1 => cases h2
  | case2 _ _ _ _ _ _ ih => exact ih i h1 h2
  | case3 vs q v p rest he ih =>
    cases i with
    | zero =>
      obtain ⟨ws, tl, htl⟩ := groupsFrom_head eqv [v] p rest
      rw [htl] at h2
      cases h1; cases h2
      simpa using he
    | succ i => exact ih i h1 h2

theorem groupsFrom_probs : ((groupsFrom eqv vs q l).map (·.prob)).Sublist (q :: l.map (·.2)) := by
  fun_induction groupsFrom eqv vs q l with
  | case1 => exact List.Sublist.refl _
  | case2 _ _ _ _ _ _ ih => exact ih.trans (List.Sublist.cons_cons _ (List.sublist_cons_self _ _))
  | case3 _ _ _ _ _ _ ih => exact List.Sublist.cons_cons _ ih

/-- each value with the probability it is stored under: that of the open group (`q`) while its own compares equal, otherwise its own -/
def stored (q : P) : List (CPs × P) → List (CPs × P)
  | [] => []
  | (v, p) :: rest => if eqv p q then (v, q) :: stored q rest else (v, p) :: stored p rest

theorem pairs_groupsFrom : pairs (groupsFrom eqv vs q l) = vs.map (fun v => (v, q)) ++ stored eqv q l := by
  fun_induction groupsFrom eqv vs q l with
  | case1 => simp [stored, pairs]
  | case2 _ _ _ _ _ he ih => simp [ih, stored, he]
  | case3 _ _ _ _ _ he ih => simp [pairs_cons, ih, stored, he]

theorem stored_rel (heq_refl : ∀ a, eqv a a = true) :
    ∀ x ∈ (stored eqv q l).zip l, x.1.1 = x.2.1 ∧ eqv x.2.2 x.1.2 = true := by
  fun_induction stored eqv q l with
  | case1 => intro x hx; cases hx
  | case2 _ _ _ _ he ih => exact List.forall_mem_cons.mpr ⟨⟨rfl, he⟩, ih⟩
  | case3 _ _ _ _ _ ih => exact List.forall_mem_cons.mpr ⟨⟨rfl, heq_refl _⟩, ih⟩

theorem groups_values : (groups eqv l).flatMap (·.values) = l.map (·.1) := by
  cases l with
  | nil => rfl
  | cons x rest => exact groupsFrom_values eqv [x.1] x.2 rest

theorem groups_ne : ∀ g ∈ groups eqv l, g.values ≠ [] := by
  cases l with
  | nil => intro g hg; cases hg
  | cons x rest => exact groupsFrom_ne eqv [x.1] x.2 rest (by simp)

theorem groups_ne_nil (hl : l ≠ []) : groups eqv l ≠ [] := fun h =>
  hl (List.map_eq_nil_iff.mp (by rw [← groups_values eqv l, h]; rfl))

/-- neighbouring groups have different probabilities: the groups are maximal -/
theorem groups_adj (i : Nat) (g1 g2 : LGroup P)
    (h1 : (groups eqv l)[i]? = some g1) (h2 : (groups eqv l)[i + 1]? = some g2) : eqv g2.prob g1.prob = false := by
  cases l with
  | nil => cases h1
  | cons x rest => exact groupsFrom_adj eqv [x.1] x.2 rest i g1 g2 h1 h2

/-- the group probabilities are probabilities of lines, in file order: an order of the file is an order of the column -/
theorem groups_probs : ((groups eqv l).map (·.prob)).Sublist (l.map (·.2)) := by
  cases l with
  | nil => exact List.Sublist.refl _
  | cons x rest => exact groupsFrom_probs eqv [x.1] x.2 rest

/-- line by line: the value is stored as written, under a probability that compares equal to the one written next to it -/
theorem groups_rel (heq_refl : ∀ a, eqv a a = true) (l : List (CPs × P)) :
    ∀ x ∈ (pairs (groups eqv l)).zip l, x.1.1 = x.2.1 ∧ eqv x.2.2 x.1.2 = true := by
  cases l with
  | nil => intro x hx; cases hx
  | cons y rest =>
    rw [groups, pairs_groupsFrom]
    exact List.forall_mem_cons.mpr ⟨⟨rfl, heq_refl _⟩, stored_rel eqv y.2 rest heq_refl⟩

end

theorem stored_beq [BEq P] [LawfulBEq P] (q : P) (l : List (CPs × P)) : stored (fun a b => a == b) q l = l := by
  fun_induction stored (fun a b => a == b) q l with
  | case1 => rfl
  | case2 _ _ _ _ he ih => rw [ih, ← beq_iff_eq.mp he]
  | case3 _ _ _ _ _ ih => rw [ih]

theorem pairs_groups_beq [BEq P] [LawfulBEq P] (l : List (CPs × P)) : pairs (groups (fun a b => a == b) l) = l := by
  cases l with
  | nil => rfl
  | cons y rest => rw [groups, pairs_groupsFrom, stored_beq]; rfl

theorem loadFromFile_shown [BEq P] [LawfulBEq P] (parseP : CPs → Option P) (showP : P → CPs) (neg1 : P)
    (hround : ∀ p, parseP (showP p) = some p) (items : List (CPs × P))
    (hclean : ∀ it ∈ items, CleanValue it.1) (hshow : ∀ p, CleanProb (showP p)) (hsent : ∀ it ∈ items, it.2 ≠ neg1) :
    loadFromFile parseP (fun a b => a == b) neg1 (writeFile (items.map fun it => (it.1, showP it.2))) =
      some (groups (fun a b => a == b) items) := by
  have hl : parsed parseP (items.map fun it => (it.1, showP it.2)) = items := by
    rw [parsed, List.filterMap_map]
    simp [Function.comp_def, hround]
  rw [loadFromFile_eq_groups, hl]
  · exact List.forall_mem_map.mpr fun x hx => ⟨hclean x hx, hshow _⟩
  · exact List.forall_mem_map.mpr fun x hx => ⟨x.2, hround _, beq_eq_false_iff_ne.mpr (hsent x hx)⟩

end Pcfg

namespace Pcfg.Detect

/-- the `Agree.term` link for the loader models: a list file written by the trainer (clean values) is
read by the scorer's loader as the (value, probability) pairs and by the guesser's loader as groups
such that every value lies in a group carrying its probability -/
theorem agree_of_file {P : Type} [DecidableEq P] (parseP : CPs → Option P) (neg1 : P)
    (items : List (CPs × CPs))
    (hc : ∀ it ∈ items, CleanValue it.1 ∧ CleanProb it.2)
    (hp : ∀ it ∈ items, ∃ p, parseP it.2 = some p ∧ p ≠ neg1) :
    ∃ gs tbl, loadFromFile parseP (fun a b => decide (a = b)) neg1 (writeFile items) = some gs ∧
      scorerLoad parseP (writeFile items) = some tbl ∧
      ∀ v p, (tbl.find? (·.1 == v)).map (·.2) = some p →
        ∃ (j : Nat) (grp : LGroup P), gs[j]? = some grp ∧ v ∈ grp.values ∧ grp.prob = p := by
  refine ⟨_, _, loadFromFile_eq_groups parseP (fun a b => decide (a = b)) neg1 items hc
      fun it hit => let ⟨p, h1, h2⟩ := hp it hit; ⟨p, h1, decide_eq_false h2⟩,
    scorerLoad_writeFile parseP items hc fun it hit => let ⟨p, h1, _⟩ := hp it hit; by rw [h1]; rfl, fun v p hfind => ?_⟩
  -- the scorer's table is the guesser's groups, flattened: what is found in it lies in a group
  rw [← pairs_groups_beq (parsed parseP items)] at hfind
  obtain ⟨a, hf, rfl⟩ := Option.map_eq_some_iff.mp hfind
  have hav : a.1 = v := by simpa using List.find?_some hf
  obtain ⟨grp, hgrp, hin⟩ := List.mem_flatMap.mp (List.mem_of_find?_eq_some hf)
  obtain ⟨w, hw, rfl⟩ := List.mem_map.mp hin
  obtain ⟨j, hj⟩ := List.getElem?_of_mem hgrp
  exact ⟨j, grp, hj, hav ▸ hw, rfl⟩

end Pcfg.Detect
