import PcfgVerif.Model.ScorerSpec
import PcfgVerif.Model.LoadMulti
import PcfgVerif.Lemmas.DetectTiling
import Std.Data.String.ToNat
/-!
# Names of variables and files

`lbl ch n` (`<letter><n>`) is the name of the list of section `ch`, length `n`: the letter, then the decimal digits of `n`
(`lbl_toList`), so it determines both.  The scorer calls the year and context lists `Y`, `X` instead of `Y1`, `X1` (`scName`), which
keeps names apart; the guesser's loader puts `C<n>` behind every `A<n>` (`insC`); the file of length `n` is `<n>.txt`, whose stem is
the numeral again.
-/
namespace Pcfg.Detect

theorem lbl_inj2 {a b : Char} {n m : Nat} (h : lbl a n = lbl b m) : a = b ∧ n = m := by
  have h1 := congrArg String.toList h
  rw [lbl_toList, lbl_toList] at h1
  obtain ⟨hc, hd⟩ := List.cons.inj h1
  exact ⟨hc, Nat.repr_injective (String.toList_inj.mp hd)⟩

theorem lbl_ne_single (c : Char) (n : Nat) (s : String) (hs : s.toList.length = 1) : lbl c n ≠ s := by
  rintro rfl
  rw [lbl_toList] at hs
  exact Nat.repr_ne_empty (String.toList_eq_nil_iff.mp (List.length_eq_zero_iff.mp (Nat.succ.inj hs)))

theorem lbl_Y1 : lbl 'Y' 1 = "Y1" := by decide
theorem lbl_X1 : lbl 'X' 1 = "X1" := by decide

theorem head_lbl (c : Char) (n : Nat) : (lbl c n).toList.head? = some c := congrArg List.head? (lbl_toList c n)

theorem labelCat_none : labelCat none = none := rfl

theorem labelCat_lbl (c : Char) (n : Nat) : labelCat (some (lbl c n)) = some c := by
  rw [labelCat, Option.bind_some, head_lbl]

theorem scName_lbl (ch : Char) (n : Nat) (h1 : ch ≠ 'Y') (h2 : ch ≠ 'X') : scName (lbl ch n) = lbl ch n := by
  unfold scName
  rw [if_neg fun e => h1 (lbl_inj2 (e.trans lbl_Y1.symm)).1, if_neg fun e => h2 (lbl_inj2 (e.trans lbl_X1.symm)).1]

theorem scName_Y1 : scName "Y1" = "Y" := if_pos rfl
theorem scName_X1 : scName "X1" = "X" := (if_neg (by simp)).trans (if_pos rfl)

theorem toStr_length (v : CPs) : (toStr v).length = v.length := List.length_map ..

end Pcfg.Detect

namespace Pcfg.Trainer
open Pcfg.Detect Pcfg.LoadMulti

theorem lbl_inj (c : Char) (n m : Nat) (h : lbl c n = lbl c m) : n = m := (lbl_inj2 h).2

/-- the guesser's name of a scorer's list: undoes `scName` on every name that is not a single letter -/
def gName (s : String) : String := if s = "Y" then "Y1" else if s = "X" then "X1" else s

theorem gName_scName (ch : Char) (n : Nat) : gName (scName (lbl ch n)) = lbl ch n := by
  by_cases h1 : lbl ch n = "Y1"
  · rw [h1, scName_Y1]; exact if_pos rfl
  by_cases h2 : lbl ch n = "X1"
  · rw [h2, scName_X1]; exact (if_neg (by simp)).trans (if_pos rfl)
  rw [scName, if_neg h1, if_neg h2]
  exact (if_neg (lbl_ne_single ch n "Y" (by simp))).trans (if_neg (lbl_ne_single ch n "X" (by simp)))

/-- the scorer's name of the list of section `ch`, length `n` -/
def scLbl (ch : Char) (n : Nat) : String := scName (lbl ch n)

theorem scLbl_inj {a b : Char} {n m : Nat} (h : scLbl a n = scLbl b m) : a = b ∧ n = m :=
  lbl_inj2 (by rw [← gName_scName a n, ← gName_scName b m]; exact congrArg gName h)

theorem scLbl_ne_B (ch : Char) (n : Nat) : scLbl ch n ≠ "B" := fun h =>
  lbl_ne_single ch n "B" (by simp) (by
    rw [← gName_scName ch n, ← scLbl, h]
    exact (if_neg (by simp)).trans (if_neg (by simp)))

theorem scLbl_Y : scLbl 'Y' 1 = "Y" := by rw [scLbl, lbl_Y1, scName_Y1]
theorem scLbl_X : scLbl 'X' 1 = "X" := by rw [scLbl, lbl_X1, scName_X1]

/-- the guesser's variable names are section names (`Y1`, `X1` are length 1 of `Y`, `X`) -/
theorem termLabel_lbl {l : String} (h : TermLabel l) : ∃ ch n, l = lbl ch n := by
  rcases h with ⟨ch, n, _, rfl⟩ | rfl | rfl
  · exact ⟨ch, n, rfl⟩
  · exact ⟨'Y', 1, lbl_Y1.symm⟩
  · exact ⟨'X', 1, lbl_X1.symm⟩

theorem isDigit_of_mem_toString (n : Nat) (c : Char) (h : c ∈ (toString n).toList) : c.isDigit = true := by
  rw [Nat.toString_eq_repr, Nat.toList_repr] at h
  exact Nat.isDigit_of_mem_toDigits (by decide) (by decide) h

/-- `"<n>.txt".split('.')[0]` is the decimal numeral -/
theorem stem_txt (n : Nat) : stem (toString n ++ ".txt") = toString n := by
  have hd : ∀ c ∈ (toString n).toList, (c != '.') = true := fun c hc =>
    bne_iff_ne.mpr fun e => by subst e; exact absurd (isDigit_of_mem_toString n _ hc) (by decide)
  have ht : ".txt".toList.takeWhile (· != '.') = [] := by simp
  rw [stem, String.toList_append, List.takeWhile_append_of_pos hd, ht, List.append_nil, String.ofList_toList]

theorem cat_stem (ch : Char) (n : Nat) : String.ofList [ch] ++ stem (toString n ++ ".txt") = lbl ch n := by
  rw [stem_txt]; rfl

theorem txt_inj (a b : Nat) (h : toString a ++ ".txt" = toString b ++ ".txt") : a = b :=
  Nat.repr_injective ((String.append_left_inj _).mp h)

end Pcfg.Trainer

namespace Pcfg.ScoreB
open Pcfg.Detect Pcfg.Trainer

/-- the label of a section in the base structure -/
def lab (s : Sec) : String := s.2.getD "?"

theorem structure_eq (secs : List Sec) :
    (baseStructure secs).2 = String.join (secs.map fun s => s.2.getD "?") := rfl

theorem textsOf_nil (c : Char) : textsOf [] c = [] := rfl

/-- the guesser loader's case insertion on one label, written as in `Agree.base` -/
def insC (l : String) : List String :=
  match l.toList with
  | 'A' :: n => [l, String.ofList ('C' :: n)]
  | _ => [l]

theorem insC_eq (l : String) :
    insC l = if l.toList.head? = some 'A' then [l, String.ofList ('C' :: l.toList.tail)] else [l] := by
  unfold insC
  split
  · next n hn => rw [hn]; rfl
  · next h => exact (if_neg fun e => (List.head?_eq_some_iff.mp e).elim h).symm

theorem insC_lblA (n : Nat) : insC (lbl 'A' n) = [lbl 'A' n, lbl 'C' n] := by
  rw [insC_eq, head_lbl, if_pos rfl, lbl_toList, List.tail_cons, ← lbl_toList, String.ofList_toList]

theorem insC_lbl (c : Char) (n : Nat) (h : c ≠ 'A') : insC (lbl c n) = [lbl c n] := by
  rw [insC_eq, head_lbl, if_neg fun e => h (Option.some.inj e)]

/-- what the guesser's side needs of the label of a section other than a word: a variable that is
neither Markov nor case, left alone by the case insertion, under which terminals are stored -/
def PlainLabel (l : String) : Prop :=
  (∃ cat, l.toList.head? = some cat ∧ Generated.Expand.isMarkov cat = false ∧
    Generated.Expand.isCase cat = false) ∧ insC l = [l] ∧ TermLabel l

theorem plainLabel_of {c : Char} {n : Nat}
    (h : c ≠ 'A' ∧ Generated.Expand.isMarkov c = false ∧ Generated.Expand.isCase c = false) (ht : TermLabel (lbl c n)) :
    PlainLabel (lbl c n) :=
  ⟨⟨c, head_lbl c n, h.2⟩, insC_lbl c n h.1, ht⟩

theorem plainLabel_lbl (c : Char) (n : Nat) (hc : c = 'K' ∨ c = 'D' ∨ c = 'O') : PlainLabel (lbl c n) :=
  plainLabel_of (by rcases hc with rfl | rfl | rfl <;> decide) (.inl ⟨c, n, hc.imp_right fun h => .inr (.inr h), rfl⟩)

theorem plainLabel_Y1 : PlainLabel "Y1" :=
  lbl_Y1 ▸ plainLabel_of (c := 'Y') (n := 1) (by decide) (.inr (.inl lbl_Y1))

theorem plainLabel_X1 : PlainLabel "X1" :=
  lbl_X1 ▸ plainLabel_of (c := 'X') (n := 1) (by decide) (.inr (.inr lbl_X1))

end Pcfg.ScoreB
