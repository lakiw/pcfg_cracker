import PcfgVerif.Lemmas.GridFrag
/-! Fragment lemmas used only by the restore walk (C08); kept apart so that C01/C02 do not depend on
the restore fragments. -/
namespace Pcfg
variable {P : Type}

theorem ipaBody_eq (O : POps P) (item : Nat) (np m : P) :
    Generated.PQ.ipaBody O item np m = if item == 0 || !O.le np m then none else some true := by
  rw [Generated.PQ.ipaBody, CmpOp.nat, POps.cmp]
  cases item == 0 <;> cases O.le np m <;> rfl

theorem rrSkip_eq (a b : Nat) : Generated.PQ.rrSkip a b = (a == b + 1) := rfl

theorem ipaDefault_eq : Generated.PQ.ipaDefault = false := rfl

theorem restoreGuard_eq (O : POps P) (p m mn : P) (ipa : Bool) (hmn : O.lt p mn = false) :
    Generated.PQ.restoreGuard O p m mn ipa =
      if O.le p m then (if ipa then .stop else .save) else .descend := by
  rw [Generated.PQ.restoreGuard, POps.cmp, POps.cmp, hmn]
  cases ipa <;> cases O.le p m <;> rfl

theorem isParentAround_false_iff (O : POps P) (s : Struct P) (w : List Nat) (m : P) :
    isParentAround O s w m = false ↔
      ∀ pos, 0 < w.getD pos 0 → O.le (findProb O s (dec w pos)) m = false := by
  unfold isParentAround
  -- in one pass `simp` would turn the test into a proposition before `loopRet_ite` sees it
  simp only [ipaBody_eq, ipaDefault_eq, loopRet_ite]
  simp only [Bool.if_false_left, Bool.and_true, Bool.not_eq_false', List.all_eq_true, List.mem_range,
    Bool.or_eq_true, beq_iff_eq, Bool.not_eq_true', decide_eq_true_eq]
  exact ⟨fun h pos hpos => (h pos (getD_pos_lt hpos)).resolve_left (Nat.ne_of_gt hpos),
    fun h pos _ => (Nat.eq_zero_or_pos _).imp_right (h pos)⟩

theorem flatMap_skip {β : Type} (keep skip : Nat → Bool) (f : Nat → List β) (l : List Nat) :
    (l.filter keep).flatMap (fun a => if skip a then [] else f a) =
      (l.filter fun a => keep a && !skip a).flatMap f := by
  induction l with
  | nil => rfl
  | cons a l ih => cases h1 : keep a <;> cases h2 : skip a <;> simp [h1, h2, ih]

end Pcfg
