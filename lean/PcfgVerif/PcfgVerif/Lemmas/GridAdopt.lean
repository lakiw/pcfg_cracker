import PcfgVerif.Lemmas.GridReach
/-! The grid of a well-formed grammar as an adoption system: inside one structure the adopter of an
index vector is its least probable parent (lowest position among equals), and `findChildren` returns
exactly the vectors a node adopts; the grid is the disjoint union of its structures.  `reach_init` is what
`reach_summary` then says of a run from the initial queue. -/
namespace Pcfg
variable {P : Type}

/-- A vector outside the structure has no adopter: `Adopt.Weight.child_le` (`gridSys_le`) is asked of
every node, and a parent is at least as probable (`findProb_dec_ge`) for valid vectors only, since an
index out of range contributes no factor. -/
def adopterIdx (A : PAlg P) (s : Struct P) (v : List Nat) : Option (List Nat) :=
  if validIdx s.cols v then (Best.argmin A.ord (cands A.toPOps s v)).map fun y => dec v y.2 else none

/-- `p` adopts `v` iff it is a parent of `v` that passes `_are_you_my_child` -/
theorem adopterIdx_eq_some {A : PAlg P} {s : Struct P} {v p : List Nat} :
    adopterIdx A s v = some p ↔ validIdx s.cols v = true ∧ ∃ k, 0 < v.getD k 0 ∧ dec v k = p ∧
      Best.unbeaten A.ord (cands A.toPOps s v) (findProb A.toPOps s p, k) = true := by
  rw [adopterIdx, Option.ite_none_right_eq_some, Option.map_eq_some_iff]
  refine and_congr_right fun _ => ⟨?_, ?_⟩
  · rintro ⟨y, hy, rfl⟩
    have hm := Best.argmin_mem _ _ _ hy
    obtain ⟨h1, h2⟩ := (mem_cands _ _ _ _).mp hm
    refine ⟨y.2, h1, rfl, ?_⟩
    rw [← h2]
    exact (Best.unbeaten_iff_argmin _ _ (cands_pairwise _ _ _) y hm).mpr hy
  · rintro ⟨k, h1, rfl, hu⟩
    have hm := (mem_cands A.toPOps s v (findProb A.toPOps s (dec v k), k)).mpr ⟨h1, rfl⟩
    exact ⟨_, (Best.unbeaten_iff_argmin _ _ (cands_pairwise _ _ _) _ hm).mp hu, rfl⟩

/-- a vector with a parent has an adopter, at most as probable as any parent -/
theorem adopterIdx_least (A : PAlg P) (s : Struct P) {v : List Nat} (hv : validIdx s.cols v = true)
    {k : Nat} (hk : 0 < v.getD k 0) : ∃ p, adopterIdx A s v = some p ∧
      A.le (findProb A.toPOps s p) (findProb A.toPOps s (dec v k)) = true := by
  have hm := (mem_cands A.toPOps s v (findProb A.toPOps s (dec v k), k)).mpr ⟨hk, rfl⟩
  obtain ⟨y, hy⟩ := Best.argmin_isSome A.ord _ _ hm
  refine ⟨dec v y.2, by rw [adopterIdx, if_pos hv, hy]; rfl, ?_⟩
  rw [← ((mem_cands _ _ _ _).mp (Best.argmin_mem _ _ _ hy)).2]
  exact Best.le_of_not_lt A.ord _ _ ((Best.argmin_spec A.ord _ (cands_pairwise _ _ _) y hy).1 _ hm)

theorem mem_findChildren (A : PAlg P) (s : Struct P) {x : List Nat} (hx : validIdx s.cols x = true)
    (c : List Nat) :
    c ∈ findChildren A.toPOps s x (findProb A.toPOps s x) ↔ adopterIdx A s c = some x := by
  simp only [findChildren_eq, List.mem_map, List.mem_filter, mem_stepsFrom hx, areYouMyChild_eq,
    adopterIdx_eq_some]
  constructor
  · rintro ⟨k, ⟨⟨_, hk, hv⟩, hu⟩, rfl⟩
    obtain ⟨h1, h2⟩ := inc_eq_iff.mp ⟨hk, rfl⟩
    exact ⟨hv, k, h1, h2, hu⟩
  · rintro ⟨hv, k, h1, h2, hu⟩
    obtain ⟨hk, rfl⟩ := inc_eq_iff.mpr ⟨h1, h2⟩
    exact ⟨k, ⟨⟨Nat.zero_le _, hk, hv⟩, hu⟩, rfl⟩

theorem nodup_findChildren (O : POps P) (s : Struct P) (x : List Nat) (pp : P) :
    (findChildren O s x pp).Nodup := by
  rw [findChildren_eq, List.Nodup, List.pairwise_map]
  refine ((stepsFrom_pairwise s.cols x 0).filter _).imp_of_mem ?_
  intro a b ha _ hab e
  have ha' : a < x.length := List.mem_range.mp (List.mem_filter.mp (List.mem_filter.mp ha).1).1
  exact Nat.ne_of_lt hab (inc_inj_pos x a b ha' e)

theorem adopterIdx_eq_none (A : PAlg P) (s : Struct P) {v : List Nat}
    (hv : validIdx s.cols v = true) : adopterIdx A s v = none ↔ v = rootIdx s := by
  rw [adopterIdx, if_pos hv, Option.map_eq_none_iff, Best.argmin_eq_none_iff,
    List.eq_nil_iff_forall_not_mem]
  constructor
  · intro h
    refine ext_getD (by rw [rootIdx_length, validIdx_length hv]) fun j => ?_
    rw [rootIdx_getD]
    exact Nat.eq_zero_of_not_pos fun hj =>
      h (findProb A.toPOps s (dec v j), j) ((mem_cands _ _ _ _).mpr ⟨hj, rfl⟩)
  · rintro rfl y hy
    have := ((mem_cands _ _ _ y).mp hy).1
    rw [rootIdx_getD] at this; cases this

section
variable [Inhabited P] (A : PAlg P) (g : Grid P)

def gridSys : Adopt.Sys Node where
  all := allNodes g
  all_nodup := nodup_allNodes g
  adopter v := (adopterIdx A (g.struct v.b) v.idx).map (Node.mk v.b)
  rank v := v.idx.sum
  adopter_mem := by
    intro v p hv h
    obtain ⟨i, hi, rfl⟩ := Option.map_eq_some_iff.mp h
    obtain ⟨hvi, k, _, rfl, _⟩ := adopterIdx_eq_some.mp hi
    exact (mem_allNodes g _).mpr ⟨((mem_allNodes g v).mp hv).1, validIdx_dec hvi k⟩
  adopter_rank := by
    intro v p h
    obtain ⟨i, hi, rfl⟩ := Option.map_eq_some_iff.mp h
    obtain ⟨_, k, hk, rfl, _⟩ := adopterIdx_eq_some.mp hi
    exact Nat.lt_of_succ_le (Nat.le_of_eq (sum_dec v.idx k hk))

theorem mem_gridSys_all (v : Node) :
    v ∈ (gridSys A g).all ↔ ValidNode g v := mem_allNodes g v

theorem gridSys_adopter (v : Node) :
    (gridSys A g).adopter v = (adopterIdx A (g.struct v.b) v.idx).map (Node.mk v.b) := by
  rw [gridSys]

theorem gridSys_le (hwf : WF A.toPOps g) (v p : Node)
    (h : (gridSys A g).adopter v = some p) :
    A.le (nodeProb A.toPOps g v) (nodeProb A.toPOps g p) = true := by
  obtain ⟨i, hi, rfl⟩ := Option.map_eq_some_iff.mp h
  obtain ⟨hv, k, _, rfl, _⟩ := adopterIdx_eq_some.mp hi
  exact findProb_dec_ge A (hwf.struct v.b) hv k

theorem nodeChildren_perm :
    ∀ x ∈ (gridSys A g).all, (nodeChildren A.toPOps g x).Perm ((gridSys A g).children x) := by
  intro x hx
  have hx' := (mem_gridSys_all A g x).mp hx
  refine List.perm_filter_of_mem_iff
    (List.nodup_map_of_injective (fun _ _ e => congrArg Node.idx e) (nodup_findChildren _ _ _ _))
    (nodup_allNodes g) fun v => ?_
  rw [decide_eq_true_eq, mem_gridSys_all, gridSys_adopter, Option.map_eq_some_iff, nodeChildren,
    nodeProb, List.mem_map]
  simp only [mem_findChildren A _ hx'.2]
  constructor
  · rintro ⟨i, hi, rfl⟩
    exact ⟨⟨hx'.1, (adopterIdx_eq_some.mp hi).1⟩, x.idx, hi, rfl⟩
  · rintro ⟨_, i, hi, rfl⟩
    exact ⟨v.idx, hi, rfl⟩

theorem initNodes_perm (hwf : WF A.toPOps g) :
    (initNodes g).Perm (gridSys A g).roots := by
  refine List.perm_filter_of_mem_iff
    (List.nodup_map_of_injective (fun _ _ e => congrArg Node.b e) List.nodup_range)
    (nodup_allNodes g) fun v => ?_
  rw [initNodes, List.mem_map, mem_gridSys_all, Option.isNone_iff_eq_none, gridSys_adopter,
    Option.map_eq_none_iff]
  constructor
  · rintro ⟨b, hb, rfl⟩
    have hv := validIdx_rootIdx (hwf.struct b)
    exact ⟨⟨List.mem_range.mp hb, hv⟩, (adopterIdx_eq_none A _ hv).mpr rfl⟩
  · rintro ⟨hv, h⟩
    exact ⟨v.b, List.mem_range.mpr hv.1, by rw [← (adopterIdx_eq_none A _ hv.2).mp h]⟩

/-- a run from the initial queue, in terms of the grid: C01 (order, for every prefix and every
tie-breaking), C02 (no node twice in `popped ++ queue`, all are grid nodes, the whole grid once the
queue is empty) and termination (at most one pop per grid node) -/
theorem reach_init (hwf : WF A.toPOps g) (s : PQState)
    (h : Reach A.toPOps g (initNodes g) s) :
    (s.popped ++ s.queue).Nodup ∧ NonIncreasing A.toPOps g s.popped ∧
      (∀ v ∈ s.popped ++ s.queue, ValidNode g v) ∧ (s.queue = [] → s.popped.Perm (allNodes g)) ∧
      s.popped.length ≤ (allNodes g).length := by
  obtain ⟨h1, h2, h3, h45⟩ := reach_summary A g (gridSys A g) _ (initNodes_perm A g hwf)
    (nodeChildren_perm A g) (gridSys_le A g hwf) s h
  exact ⟨h1, h2, fun v hv => (mem_gridSys_all A g v).mp (h3 v hv), h45⟩

end
end Pcfg
