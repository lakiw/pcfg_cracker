import PcfgVerif.Model.Detect
/-! The multi-word parser `mwParse` with its search `identifyMulti` (Python `multiword_detector.py`): the words returned are known,
long enough, non-empty, and concatenate to the input.  All of it is read off `identifyMulti_eq_some`, the loop inverted. -/
namespace Pcfg.Detect

/-- a search down from `hi` to `lo` (Python's `for i in range(hi, lo - 1, -1)` with a `return` in the body) answers at the
largest index at which the body does -/
theorem findSome?_down {α : Type} {f : Nat → Option α} {lo hi : Nat} {r : α}
    (h : ((List.range (hi + 1)).reverse.filter fun i => decide (lo ≤ i)).findSome? f = some r) :
    ∃ i, lo ≤ i ∧ i ≤ hi ∧ f i = some r ∧ ∀ j, i < j → j ≤ hi → f j = none := by
  obtain ⟨l₁, i, l₂, hl, hfi, hbefore⟩ := List.findSome?_eq_some_iff.mp h
  have hmem : ∀ j, j ∈ l₁ ++ i :: l₂ ↔ lo ≤ j ∧ j ≤ hi := fun j => by
    rw [← hl, List.mem_filter, List.mem_reverse, List.mem_range, Nat.lt_succ_iff, decide_eq_true_eq, and_comm]
  have hp : (l₁ ++ i :: l₂).Pairwise (· > ·) := hl ▸ (List.pairwise_reverse.mpr List.pairwise_lt_range).filter _
  obtain ⟨hi1, hi2⟩ := (hmem i).mp (List.mem_append_right _ List.mem_cons_self)
  refine ⟨i, hi1, hi2, hfi, fun j hij hj => hbefore j ?_⟩
  -- `j` is in the list, and not in `i :: l₂`, whose elements are at most `i`
  refine (List.mem_append.mp ((hmem j).mpr ⟨Nat.le_trans hi1 (Nat.le_of_lt hij), hj⟩)).resolve_right fun h => ?_
  have : j ≤ i := (List.mem_cons.mp h).elim Nat.le_of_eq fun h =>
    Nat.le_of_lt (List.rel_of_pairwise_cons (List.pairwise_append.mp hp).2.1 h)
  exact Nat.not_lt.mpr this hij

/-- The loop of `_identify_multi` inverted: an answer comes from an index `i` in range at which `s.take i` is a known word and
`s.drop i` is a known word or is split by the recursive call, and no larger index in range is such. -/
theorem identifyMulti_eq_some {cfg : MWCfg} {t : MWTable} {fuel : Nat} {s : CPs} {r : List CPs}
    (h : identifyMulti cfg t (fuel + 1) s = some r) :
    ∃ i, cfg.minLen ≤ i ∧ i ≤ s.length - cfg.minLen ∧ cfg.threshold ≤ mwCount t (s.take i) ∧
      (∃ r', r = s.take i :: r' ∧
        (cfg.threshold ≤ mwCount t (s.drop i) ∧ r' = [s.drop i] ∨
          mwCount t (s.drop i) < cfg.threshold ∧ identifyMulti cfg t fuel (s.drop i) = some r')) ∧
      ∀ j, i < j → j ≤ s.length - cfg.minLen → cfg.threshold ≤ mwCount t (s.take j) →
        ¬(cfg.threshold ≤ mwCount t (s.drop j) ∨ (identifyMulti cfg t fuel (s.drop j)).isSome = true) := by
  rw [identifyMulti] at h
  obtain ⟨i, hi1, hi2, hfi, hlater⟩ := findSome?_down h
  obtain ⟨hg, hfi⟩ := Option.ite_none_right_eq_some.mp hfi
  refine ⟨i, hi1, hi2, hg, ?_, fun j hij hj hg hor => ?_⟩
  · by_cases hd : cfg.threshold ≤ mwCount t (s.drop i)
    · rw [if_pos hd] at hfi
      exact ⟨_, (Option.some.inj hfi).symm, .inl ⟨hd, rfl⟩⟩
    · rw [if_neg hd] at hfi
      obtain ⟨r', hr', rfl⟩ := Option.map_eq_some_iff.mp hfi
      exact ⟨r', rfl, .inr ⟨Nat.lt_of_not_le hd, hr'⟩⟩
  · have := ite_eq_right_iff.mp (hlater j hij hj) hg
    by_cases hd : cfg.threshold ≤ mwCount t (s.drop j)
    · rw [if_pos hd] at this; cases this
    · rw [if_neg hd, Option.map_eq_none_iff] at this
      rw [this] at hor
      exact hor.elim hd Bool.false_ne_true

theorem identifyMulti_mono (cfg : MWCfg) (t : MWTable) (n : Nat) :
    ∀ s, (identifyMulti cfg t n s).isSome = true → (identifyMulti cfg t (n + 1) s).isSome = true := by
  induction n with
  | zero => intro s h; cases h
  | succ n ih =>
    intro s h
    rw [identifyMulti, List.findSome?_isSome_iff] at h ⊢
    obtain ⟨i, hi, h⟩ := h
    refine ⟨i, hi, ?_⟩
    by_cases hg : cfg.threshold ≤ mwCount t (s.take i)
    · rw [if_pos hg] at h ⊢
      by_cases hd : cfg.threshold ≤ mwCount t (s.drop i)
      · rw [if_pos hd]; rfl
      · rw [if_neg hd, Option.isSome_map] at h ⊢; exact ih _ h
    · rw [if_neg hg] at h; cases h

/-- `hc` is what `mwParse` and the recursive call provide; the last clause needs it: with `minLen = 0` and `[]` a known word, a
known word `s` is split into `[s, []]`. -/
theorem identifyMulti_spec (cfg : MWCfg) (t : MWTable) (n : Nat) :
    ∀ (s : CPs) (r : List CPs), mwCount t s < cfg.threshold → identifyMulti cfg t n s = some r →
      r.flatten = s ∧ ∀ w ∈ r, cfg.threshold ≤ mwCount t w ∧ cfg.minLen ≤ w.length ∧ w ≠ [] := by
  induction n with
  | zero => intro s r _ h; cases h
  | succ n ih =>
    intro s r hc h
    obtain ⟨i, hi1, hi2, h1, ⟨r', rfl, htail⟩, hmax⟩ := identifyMulti_eq_some h
    have hil : i < s.length := Nat.lt_of_not_le fun hle => Nat.not_le.mpr hc (List.take_of_length_le hle ▸ h1)
    have hr' : r'.flatten = s.drop i ∧ ∀ w ∈ r', cfg.threshold ≤ mwCount t w ∧ cfg.minLen ≤ w.length ∧ w ≠ [] := by
      obtain ⟨h2, rfl⟩ | ⟨h2, hrec⟩ := htail
      · have hlen : (s.drop i).length = s.length - i := List.length_drop
        exact ⟨List.flatten_singleton, List.forall_mem_singleton.mpr
          ⟨h2, hlen ▸ Nat.le_sub_of_add_le' (Nat.add_le_of_le_sub (Nat.le_trans hi1 (Nat.le_of_lt hil)) hi2),
            List.ne_nil_of_length_pos (hlen ▸ Nat.sub_pos_of_lt hil)⟩⟩
      · exact ih _ _ h2 hrec
    have hi0 : 0 < i := by
      /- With `minLen = 0` the index `0` is among those tried, and a step at `0` would give an empty first word.  It is not
      the step taken: it needs the recursive call on `s` itself to succeed, whose first word is `s.take j` with `0 < j` by
      induction; as more fuel only helps, the step at `j` succeeds too, and it is tried first. -/
      refine Nat.pos_of_ne_zero fun h0 => ?_
      subst h0
      rw [List.drop_zero] at htail
      obtain ⟨h2, -⟩ | ⟨-, hrec⟩ := htail
      · exact Nat.not_le.mpr hc h2
      cases n with
      | zero => cases hrec
      | succ m =>
        obtain ⟨j, -, hj2, hj3, ⟨r'', rfl, hjt⟩, -⟩ := identifyMulti_eq_some hrec
        have hj0 : 0 < j := Nat.pos_of_ne_zero fun h0 => (hr'.2 _ List.mem_cons_self).2.2 (h0 ▸ List.take_zero)
        exact hmax j hj0 hj2 hj3 (hjt.imp And.left fun h => identifyMulti_mono cfg t m _ (Option.isSome_of_eq_some h.2))
    have hlen : (s.take i).length = i := List.length_take_of_le (Nat.le_of_lt hil)
    exact ⟨by rw [List.flatten_cons, hr'.1, List.take_append_drop],
      List.forall_mem_cons.mpr ⟨⟨h1, hlen.symm ▸ hi1, List.ne_nil_of_length_pos (hlen.symm ▸ hi0)⟩, hr'.2⟩⟩

theorem mwParse_cases (cfg : MWCfg) (t : MWTable) (s : CPs) :
    (mwParse cfg t s).2 = [s] ∨
    (mwCount t s < cfg.threshold ∧ (mwParse cfg t s).2.flatten = s ∧
      ∀ w ∈ (mwParse cfg t s).2, cfg.threshold ≤ mwCount t w ∧ cfg.minLen ≤ w.length ∧ w ≠ []) := by
  -- the cases are the branches in order; only the last returns anything but `[s]`
  fun_cases mwParse cfg t s
  case case6 hc _ r h => exact .inr ⟨Nat.lt_of_not_le hc, identifyMulti_spec cfg t _ s r (Nat.lt_of_not_le hc) h⟩
  all_goals exact .inl rfl

theorem mwParse_words (cfg : MWCfg) (t : MWTable) (s : CPs) (hs : s ≠ []) :
    (mwParse cfg t s).2.flatten = s ∧ ∀ w ∈ (mwParse cfg t s).2, w ≠ [] := by
  rcases mwParse_cases cfg t s with h | ⟨_, hf, hw⟩
  · rw [h]; exact ⟨List.flatten_singleton, List.forall_mem_singleton.mpr hs⟩
  · exact ⟨hf, fun w hm => (hw w hm).2.2⟩

set_option linter.unusedVariables false in
/-- the words `mwParse` returns concatenate to its input and are non-empty when the input is
(`hmin` is not needed by the proof) -/
theorem mwParse_concat (cfg : MWCfg) (t : MWTable) (s : CPs) (hs : s ≠ []) (hmin : 0 < cfg.minLen) :
    (mwParse cfg t s).2.flatten = s ∧ ∀ w ∈ (mwParse cfg t s).2, w ≠ [] :=
  mwParse_words cfg t s hs

end Pcfg.Detect
