import PcfgVerif.Lemmas.AdoptOrder
import PcfgVerif.Lemmas.GridFrag
/-! Generic refinement: if the queue model's `nodeChildren` / start list agree (up to permutation)
with an abstract adoption system, every reachable state satisfies the abstract invariants. -/
namespace Pcfg
variable {P : Type} [Inhabited P]

theorem isTop_iff (O : POps P) {g : Grid P} {q : List Node} {x : Node} :
    isTop O g q x = true ↔ x ∈ q ∧ ∀ y ∈ q, O.le (nodeProb O g y) (nodeProb O g x) = true := by
  simp only [isTop, Bool.and_eq_true, List.contains_iff_mem, List.all_eq_true, queueLt_eq,
    Bool.not_not]

theorem exists_isTop (A : PAlg P) (g : Grid P) (q : List Node) (hq : q ≠ []) :
    ∃ x, isTop A.toPOps g q x = true := by
  simp only [isTop_iff]
  induction q with
  | nil => exact absurd rfl hq
  | cons a r ih =>
    by_cases hr : r = []
    · subst hr
      exact ⟨a, List.mem_cons_self, fun y hy => List.mem_singleton.mp hy ▸ A.le_refl _⟩
    · obtain ⟨x, hx, hmax⟩ := ih hr
      rcases A.le_total (nodeProb A.toPOps g a) (nodeProb A.toPOps g x) with h | h
      · exact ⟨x, List.mem_cons_of_mem _ hx, List.forall_mem_cons.mpr ⟨h, hmax⟩⟩
      · exact ⟨a, List.mem_cons_self, List.forall_mem_cons.mpr
          ⟨A.le_refl _, fun y hy => A.le_trans _ _ _ (hmax y hy) h⟩⟩

theorem reach_summary (A : PAlg P) (g : Grid P) (S : Adopt.Sys Node) (start : List Node)
    (hroots : start.Perm S.roots)
    (hch : ∀ x ∈ S.all, (nodeChildren A.toPOps g x).Perm (S.children x))
    (hcl : ∀ v p, S.adopter v = some p →
      A.le (nodeProb A.toPOps g v) (nodeProb A.toPOps g p) = true)
    (s : PQState) (h : Reach A.toPOps g start s) :
    (s.popped ++ s.queue).Nodup ∧ NonIncreasing A.toPOps g s.popped ∧
      (∀ v ∈ s.popped ++ s.queue, v ∈ S.all) ∧ (s.queue = [] → s.popped.Perm S.all) ∧
      s.popped.length ≤ S.all.length := by
  have ⟨hi, ho⟩ : Adopt.Inv S ⟨s.queue, s.popped⟩ ∧
      Adopt.OrdInv S ⟨nodeProb A.toPOps g, (A.le · · = true), A.le_refl, A.le_trans, hcl⟩
        ⟨s.queue, s.popped⟩ := by
    induction h with
    | init =>
      exact ⟨(Adopt.inv_init S).perm hroots.symm, (Adopt.ord_init S _).perm hroots.symm⟩
    | @step s x _ htop ih =>
      have ⟨hx, hmax⟩ := (isTop_iff _).mp htop
      have hperm := (hch x (Adopt.inv_mem_all ih.1 x (List.mem_append_right _ hx))).symm.append_left
        (s.queue.erase x)
      exact ⟨(Adopt.inv_step S ⟨s.queue, s.popped⟩ x ih.1 hx).perm hperm,
        (Adopt.ord_step S _ ⟨s.queue, s.popped⟩ x ih.2 hx hmax).perm hperm⟩
  have hnd := Adopt.inv_nodup hi
  have hall := Adopt.inv_mem_all hi
  exact ⟨hnd, ho.sorted, hall, Adopt.exhausted_perm S _ hi,
    (List.nodup_append.mp hnd).1.length_le_of_subset fun a ha => hall a (List.mem_append_left _ ha)⟩

theorem NonIncreasing.getElem?_le (A : PAlg P) {g : Grid P} {l : List Node}
    (h : NonIncreasing A.toPOps g l) {i k : Nat} {x y : Node} (hik : i ≤ k)
    (hy : l[i]? = some y) (hx : l[k]? = some x) :
    A.le (nodeProb A.toPOps g x) (nodeProb A.toPOps g y) = true := by
  obtain ⟨hi, rfl⟩ := List.getElem?_eq_some_iff.mp hy
  obtain ⟨hk, rfl⟩ := List.getElem?_eq_some_iff.mp hx
  rcases Nat.eq_or_lt_of_le hik with rfl | hlt
  · exact A.le_refl _
  · exact List.pairwise_iff_getElem.mp h i k hi hk hlt

end Pcfg
