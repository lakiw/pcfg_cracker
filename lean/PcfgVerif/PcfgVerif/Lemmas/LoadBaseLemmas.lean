import PcfgVerif.Lemmas.WrittenFile
/-! The base-structure loader `_load_base_structures`: its tokeniser (`splitStructure`), the case insertion (`insertCase`), what
`skip_brute` changes (C14), and what it returns on a `grammar.txt` the trainer writes. -/
namespace Pcfg
variable {P : Type}

/-- a label as the tokeniser sees it: one letter followed by non-letters -/
def Tok (isAlpha : Nat → Bool) (t : CPs) : Prop :=
  ∃ a ds, t = a :: ds ∧ isAlpha a = true ∧ ∀ d ∈ ds, isAlpha d = false

theorem split_nonalpha (isAlpha : Nat → Bool) (ds rest : CPs) (hd : ∀ d ∈ ds, isAlpha d = false) (acc : List CPs) (l : CPs) :
    splitStructure isAlpha (ds ++ rest) (acc ++ [l]) = splitStructure isAlpha rest (acc ++ [l ++ ds]) := by
  induction ds generalizing l with
  | nil => rw [List.nil_append, List.append_nil]
  | cons d more ih =>
    obtain ⟨h0, hd⟩ := List.forall_mem_cons.mp hd
    rw [List.cons_append, splitStructure, h0, List.reverse_append]
    show splitStructure isAlpha (more ++ rest) ((l ++ [d]) :: acc.reverse).reverse = _
    rw [List.reverse_cons, List.reverse_reverse, ih hd, List.append_assoc]
    rfl

theorem split_tokens (isAlpha : Nat → Bool) (toks : List CPs) (ht : ∀ t ∈ toks, Tok isAlpha t) (acc : List CPs) :
    splitStructure isAlpha toks.flatten acc = some (acc ++ toks) := by
  induction toks generalizing acc with
  | nil => rw [List.flatten_nil, splitStructure, List.append_nil]
  | cons t rest ih =>
    obtain ⟨⟨a, ds, rfl, ha, hd⟩, hrest⟩ := List.forall_mem_cons.mp ht
    rw [List.flatten_cons, List.cons_append, splitStructure, ha, if_pos rfl, split_nonalpha isAlpha ds _ hd, ih hrest,
      List.append_assoc]
    rfl

theorem insertCase_cons (r : CPs) (rest : List CPs) :
    insertCase (r :: rest) =
      if r.head? = some 0x41 then r :: (0x43 :: r.tail) :: insertCase rest else r :: insertCase rest := by
  cases r with
  | nil => rfl
  | cons c cs =>
    by_cases hc : c = 0x41
    · subst hc; rfl
    · rw [List.head?_cons, if_neg fun e => hc (Option.some.inj e), insertCase]
      exact fun n heq => hc (List.cons.inj heq).1

theorem insertCase_contains_M (reps : List CPs) :
    (insertCase reps).contains [0x4d] = reps.contains [0x4d] := by
  -- the cases: no token, `A<n>` first (a `C<n>` goes in behind it), any other token first
  fun_induction insertCase reps with
  | case1 => rfl
  | case2 rest lenStr ih =>
    rw [List.contains_cons, List.contains_cons, ih, List.contains_cons]
    rfl  -- `[0x4d] == 0x43 :: lenStr` evaluates to `false`
  | case3 r rest _ ih => rw [List.contains_cons, ih, List.contains_cons]

theorem insertCase_filter (reps : List CPs) (h : ∀ r ∈ reps, r.head? ≠ some 0x43) :
    (insertCase reps).filter (fun r => r.head? != some 0x43) = reps := by
  fun_induction insertCase reps with
  | case1 => rfl
  | case2 rest lenStr ih =>
    -- the filter keeps `A<n>` and drops the `C<n>` behind it, by evaluation
    exact congrArg _ (ih fun x hx => h x (List.mem_cons_of_mem _ hx))
  | case3 r rest _ ih =>
    obtain ⟨hr, h⟩ := List.forall_mem_cons.mp h
    rw [List.filter_cons, if_pos (bne_iff_ne.mpr hr), ih h]

theorem insertCase_next (reps : List CPs) (i : Nat) (r : CPs) (h1 : (insertCase reps)[i]? = some r) (h2 : r.head? = some 0x41) :
    (insertCase reps)[i + 1]? = some (0x43 :: r.tail) := by
  induction reps generalizing i with
  | nil => cases h1
  | cons a rest ih =>
    rw [insertCase_cons] at h1 ⊢
    by_cases ha : a.head? = some 0x41
    · rw [if_pos ha] at h1 ⊢
      rcases i with _ | _ | k
      · cases h1; rfl
      · cases h1; cases h2
      · exact ih k h1
    · rw [if_neg ha] at h1 ⊢
      cases i with
      | zero => cases h1; exact absurd h2 ha
      | succ k => exact ih k h1

/-- total used for renormalisation under `skip_brute`: 1 − P(first `M` line), or 1 when there is none -/
def skipTotal (parseP : CPs → Option P) (A : PArith P) (text : CPs) : Option P :=
  match findMarkovProb parseP (textModeLines text) with
  | none => none
  | some none => some A.one
  | some (some pm) => some (A.sub A.one pm)

section
variable (parseP : CPs → Option P) (A : PArith P) (isAlpha : Nat → Bool)

theorem loadBase_skip_eq (text : CPs) :
    loadBase parseP A isAlpha true text =
      (skipTotal parseP A text).bind fun total =>
        (baseLoop parseP A isAlpha true total (textModeLines text)).map fun bs =>
          bs.map fun b => { b with replacements := insertCase b.replacements } := by
  unfold loadBase skipTotal
  simp only [if_true]
  cases findMarkovProb parseP (textModeLines text) with
  | none => rfl
  | some o => cases o <;> rfl

variable (hone : ∀ p, A.div p A.one = some p)
include hone

theorem baseLoop_skip (tot : P) (lines : List CPs) :
    ∀ bs0, baseLoop parseP A isAlpha false A.one lines = some bs0 →
      (∀ b ∈ bs0, (A.div b.prob tot).isSome) →
      baseLoop parseP A isAlpha true tot lines =
        some ((bs0.filter fun b => !(b.replacements.contains [0x4d])).filterMap fun b =>
          (A.div b.prob tot).map fun q => { b with prob := q }) := by
  -- along the default run; of its branches, in the order of the definition, only the first (end of file) and the fourth (a line that
  -- is kept) return a list, and the fifth (a line dropped under `skip_brute`) does not occur
  fun_induction baseLoop parseP A isAlpha false A.one lines with
  | case1 => rintro _ ⟨⟩ _; rfl
  | case4 line rest value probText tl hs p hp p' reps hr h1 more hm _ ih =>
    rintro _ ⟨⟩ hdiv
    cases (hone p).symm.trans h1
    obtain ⟨hq, hdiv⟩ := List.forall_mem_cons.mp hdiv
    obtain ⟨q, hq⟩ : ∃ q, A.div p tot = some q := Option.isSome_iff_exists.mp hq
    rw [baseLoop, hs]
    simp only [hp, hq, hr, ih more hm hdiv, List.filter_cons]
    cases reps.contains [0x4d] <;> simp [hq]
  | case5 => exact absurd rfl ‹¬_›
  | _ => nofun

variable (showP : P → CPs) (hround : ∀ p, parseP (showP p) = some p) (items : List (CPs × P))
  (hclean : ∀ it ∈ items, CleanItem (it.1, showP it.2))
  (hsplit : ∀ it ∈ items, (splitStructure isAlpha it.1 []).isSome)
include hround hclean hsplit

theorem baseLoop_written :
    baseLoop parseP A isAlpha false A.one (items.map fun it => writeLine it.1 (showP it.2)) =
      some (items.filterMap fun it => (splitStructure isAlpha it.1 []).map fun reps => ⟨it.2, reps⟩) := by
  induction items with
  | nil => rfl
  | cons it rest ih =>
    obtain ⟨hcl, hclean⟩ := List.forall_mem_cons.mp hclean
    obtain ⟨hr, hsplit⟩ := List.forall_mem_cons.mp hsplit
    obtain ⟨reps, hr⟩ := Option.isSome_iff_exists.mp hr
    rw [List.map_cons, baseLoop, split_writeLine it.1 (showP it.2) hcl.1 hcl.2]
    simp only [hround, hone, hr, ih hclean hsplit]
    rw [List.filterMap_cons, hr]
    rfl

theorem loadBase_written :
    loadBase parseP A isAlpha false (writeFile (items.map fun it => (it.1, showP it.2))) =
      some ((items.filterMap fun it => (splitStructure isAlpha it.1 []).map fun reps => (⟨it.2, reps⟩ : BaseS P)).map fun b =>
        { b with replacements := insertCase b.replacements }) := by
  show (baseLoop parseP A isAlpha false A.one _).map _ = _
  rw [Trainer.textModeLines_writeFile, List.map_map]
  · exact congrArg _ (baseLoop_written parseP A isAlpha hone showP hround items hclean hsplit)
  · exact List.forall_mem_map.mpr fun x hx =>
      ⟨fun c hc => ne_lf_cr_of_not_lineSep ((hclean x hx).1 c hc).1, (hclean x hx).2.1,
        fun c hc => ne_lf_cr_of_not_lineSep ((hclean x hx).2.2 c hc).1⟩

end

end Pcfg

namespace Pcfg.Trainer

/-- exact arithmetic of the base-structure loader: `1`, subtraction, division (`none` = ZeroDivisionError) -/
def ratArith : PArith Rat := ⟨1, (· - ·), fun a b => if b = 0 then none else some (a / b)⟩

theorem ratArith_div_one (p : Rat) : ratArith.div p ratArith.one = some p := by
  show (if (1 : Rat) = 0 then none else some (p / 1)) = some p
  rw [if_neg (by decide), Rat.div_def, show (1 : Rat)⁻¹ = 1 by decide +kernel, Rat.mul_one]

end Pcfg.Trainer
