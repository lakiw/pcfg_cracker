import PcfgVerif.Model.OmenSpec
import PcfgVerif.Lemmas.ListFacts
/-!
# OMEN level tables

A level table is a list of rows, row `a` holding the items of level `a`.  When its flattening has no duplicates an item
determines its row and its place in the row (`pos_unique`), and `tblLevel` finds that row (`tblLevel_iff`).
-/
namespace Omen

theorem getD_row {α : Type} {tbl : List (List α)} {a : Nat} {v : α} (h : v ∈ tbl.getD a []) :
    ∃ ha : a < tbl.length, tbl.getD a [] = tbl[a] := by
  by_cases ha : a < tbl.length
  · exact ⟨ha, (List.getElem_eq_getD []).symm⟩
  · simp [List.getD_eq_getElem?_getD, List.getElem?_eq_none (Nat.le_of_not_lt ha)] at h

theorem getD_mem_tbl {α : Type} (tbl : List (List α)) (a : Nat)
    (h : 0 < (tbl.getD a []).length) : tbl.getD a [] ∈ tbl := by
  obtain ⟨v, hv⟩ := List.exists_mem_of_length_pos h
  obtain ⟨ha, e⟩ := getD_row hv
  exact e ▸ List.getElem_mem ha

theorem level_nodup {α : Type} (tbl : List (List α)) (hn : tbl.flatten.Nodup) (a : Nat) :
    (tbl.getD a []).Nodup := by
  cases hr : tbl.getD a [] with
  | nil => exact List.nodup_nil
  | cons v r =>
    obtain ⟨ha, e⟩ := getD_row (hr ▸ List.mem_cons_self : v ∈ tbl.getD a [])
    exact hr ▸ e ▸ hn.sublist (List.sublist_flatten_of_mem (List.getElem_mem ha))

theorem level_unique {α : Type} (tbl : List (List α)) (hn : tbl.flatten.Nodup) (a a' : Nat) (v : α)
    (h : v ∈ tbl.getD a []) (h' : v ∈ tbl.getD a' []) : a = a' := by
  obtain ⟨ha, e⟩ := getD_row h
  obtain ⟨ha', e'⟩ := getD_row h'
  have hp := List.pairwise_iff_getElem.1 (List.pairwise_flatten.1 hn).2
  rcases Nat.lt_trichotomy a a' with hlt | heq | hlt
  · exact absurd rfl (hp a a' ha ha' hlt v (e ▸ h) v (e' ▸ h'))
  · exact heq
  · exact absurd rfl (hp a' a ha' ha hlt v (e' ▸ h') v (e ▸ h))

theorem getD_mem {α : Type} {l : List α} {j : Nat} (d : α) (h : j < l.length) : l.getD j d ∈ l :=
  List.getElem_eq_getD d ▸ List.getElem_mem h

theorem exists_getD_of_mem {α : Type} {l : List α} {x : α} (d : α) (h : x ∈ l) : ∃ j, j < l.length ∧ l.getD j d = x :=
  let ⟨j, hj, e⟩ := List.mem_iff_getElem.1 h
  ⟨j, hj, (List.getElem_eq_getD d).symm.trans e⟩

theorem pos_unique {α : Type} (tbl : List (List α)) (hn : tbl.flatten.Nodup) (d : α)
    (a j a' j' : Nat) (hj : j < (tbl.getD a []).length) (hj' : j' < (tbl.getD a' []).length)
    (h : (tbl.getD a []).getD j d = (tbl.getD a' []).getD j' d) : a = a' ∧ j = j' := by
  obtain rfl : a = a' := level_unique tbl hn a a' _ (getD_mem d hj) (h ▸ getD_mem d hj')
  rw [← List.getElem_eq_getD (h := hj), ← List.getElem_eq_getD (h := hj')] at h
  exact ⟨rfl, (List.getElem_inj (level_nodup tbl hn a)).mp h⟩

theorem tblLevel_iff {α : Type} [BEq α] [LawfulBEq α] (tbl : List (List α))
    (hn : tbl.flatten.Nodup) (v : α) (a : Nat) :
    tblLevel tbl v = some a ↔ a < tbl.length ∧ v ∈ tbl.getD a [] := by
  unfold tblLevel
  rw [List.find?_range_eq_some]
  constructor
  · rintro ⟨hc, hr, _⟩
    exact ⟨List.mem_range.1 hr, by simpa using hc⟩
  · rintro ⟨ha, hv⟩
    refine ⟨by simpa using hv, List.mem_range.2 ha, ?_⟩
    intro k hk
    simp only [Bool.not_eq_eq_eq_not, Bool.not_true, List.contains_eq_mem, decide_eq_false_iff_not]
    intro hv'
    exact Nat.ne_of_lt hk (level_unique tbl hn k a v hv' hv)

theorem levelOf_eq_some_iff (t : Tables) (ipLen : Nat) (s : Str) (L : Nat) :
    t.levelOf ipLen s = some L ↔ ipLen < s.length ∧ ∃ a b c, tblLevel t.ipTbl (s.take ipLen) = some a ∧
      tblLevel t.lnTbl (s.drop ipLen).length = some b ∧ t.m.transCost (s.take ipLen) (s.drop ipLen) = some c ∧
      a + b + c = L := by
  unfold Tables.levelOf
  by_cases hlen : s.length < ipLen + 1
  · rw [if_pos hlen]
    exact ⟨nofun, fun h => absurd (Nat.succ_le_of_lt h.1) (Nat.not_le.2 hlen)⟩
  · rw [if_neg hlen, and_iff_right (Nat.lt_of_succ_le (Nat.not_lt.1 hlen))]
    cases tblLevel t.ipTbl (s.take ipLen) with
    | none => simp
    | some a =>
      cases tblLevel t.lnTbl (s.drop ipLen).length with
      | none => simp
      | some b => cases t.m.transCost (s.take ipLen) (s.drop ipLen) <;> simp

theorem findFirst_some {α : Type} (M : Nat) (tbl : List (List α)) (s : Nat)
    (h : findFirst M tbl = some s) :
    s < M ∧ 0 < (tbl.getD s []).length ∧ ∀ k, k < s → (tbl.getD k []).length = 0 := by
  unfold findFirst at h
  rw [List.find?_range_eq_some] at h
  obtain ⟨hc, hr, hall⟩ := h
  refine ⟨List.mem_range.1 hr, ?_, ?_⟩
  · exact Nat.pos_of_ne_zero (bne_iff_ne.1 hc)
  · intro k hk
    have := hall k hk
    simpa using this

end Omen
