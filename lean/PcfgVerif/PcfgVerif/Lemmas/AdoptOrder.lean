import PcfgVerif.Lemmas.Adopt
/-! C01 core on the abstract adoption system: popping a maximal element yields a non-increasing trace -/
namespace Adopt
variable {α : Type} [DecidableEq α] (S : Sys α)

structure Weight (S : Sys α) (P : Type) where
  w : α → P
  le : P → P → Prop
  le_refl : ∀ a, le a a
  le_trans : ∀ a b c, le a b → le b c → le a c
  child_le : ∀ v p, S.adopter v = some p → le (w v) (w p)

variable {P : Type} (W : Weight S P)

structure OrdInv (s : St α) : Prop where
  q_le_p : ∀ q ∈ s.queue, ∀ p ∈ s.popped, W.le (W.w q) (W.w p)
  sorted : s.popped.Pairwise (fun a b => W.le (W.w b) (W.w a))

theorem ord_init : OrdInv S W S.init :=
  ⟨fun _ _ _ hp => (List.not_mem_nil hp).elim, List.Pairwise.nil⟩

theorem ord_step (s : St α) (x : α) (h : OrdInv S W s) (hx : x ∈ s.queue)
    (hmax : ∀ y ∈ s.queue, W.le (W.w y) (W.w x)) : OrdInv S W (S.step s x) := by
  refine ⟨fun q hq p hp => ?_, ?_⟩
  · have hqx : W.le (W.w q) (W.w x) := by
      rcases List.mem_append.mp hq with hq | hq
      · exact hmax q (List.mem_of_mem_erase hq)
      · exact W.child_le q x (of_decide_eq_true (List.mem_filter.mp hq).2)
    rcases List.mem_append.mp hp with hp | hp
    · exact W.le_trans _ _ _ hqx (h.q_le_p x hx p hp)
    · rwa [List.mem_singleton.mp hp]
  · exact List.pairwise_append.mpr ⟨h.sorted, List.pairwise_singleton _ _,
      fun a ha b hb => List.mem_singleton.mp hb ▸ h.q_le_p x hx a ha⟩

variable {S W} in
theorem OrdInv.perm {s : St α} {q' : List α} (h : OrdInv S W s) (hp : s.queue.Perm q') :
    OrdInv S W ⟨q', s.popped⟩ :=
  ⟨fun q hq p hpp => h.q_le_p q (hp.mem_iff.mpr hq) p hpp, h.sorted⟩

end Adopt
