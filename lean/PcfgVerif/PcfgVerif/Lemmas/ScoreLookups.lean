import PcfgVerif.Model.Scorer
/-! The score as a product: probabilities as a commutative monoid with an absorbing zero, products over lists as the left folds the
Python code performs (`prodL`), and the table lookups `score` multiplies over: the segments' (`lookups`, a list: the guesser takes
them in another order), then the base structure's. -/
namespace Pcfg.Detect

/-- commutative monoid with an absorbing zero: what exact arithmetic gives the two products -/
structure CMon (P : Type) where
  mul : P → P → P
  one : P
  zero : P
  mul_comm : ∀ a b, mul a b = mul b a
  mul_assoc : ∀ a b c, mul (mul a b) c = mul a (mul b c)
  one_mul : ∀ a, mul one a = a
  zero_mul : ∀ a, mul zero a = zero

variable {P : Type} (M : CMon P)

theorem CMon.mul_ne_zero {a b : P} (h : M.mul a b ≠ M.zero) : a ≠ M.zero ∧ b ≠ M.zero :=
  ⟨fun ha => h (by rw [ha, M.zero_mul]), fun hb => h (by rw [hb, M.mul_comm, M.zero_mul])⟩

end Pcfg.Detect

namespace Pcfg.ScoreB
open Pcfg.Detect

/-- product of a list as the left fold the Python code performs -/
def prodL {P : Type} (mul : P → P → P) (one : P) (l : List P) : P := l.foldl mul one

section
variable {P : Type} {mul : P → P → P} {one : P}

theorem prodL_nil : prodL mul one [] = one := rfl

end

variable {P : Type} (M : CMon P)

theorem foldl_mul (l : List P) (a : P) : l.foldl M.mul a = M.mul a (prodL M.mul M.one l) := by
  rw [prodL, ← @List.foldl_assoc _ _ ⟨M.mul_assoc⟩, M.mul_comm a, M.one_mul]

theorem prodL_perm {l1 l2 : List P} (h : l1.Perm l2) :
    prodL M.mul M.one l1 = prodL M.mul M.one l2 := by
  refine h.foldl_eq' ?_ M.one
  intro x _ y _ z
  rw [M.mul_assoc, M.mul_assoc, M.mul_comm x y]

theorem foldl_mul_ne_zero {l : List P} {a : P} (h : l.foldl M.mul a ≠ M.zero) :
    a ≠ M.zero ∧ ∀ x ∈ l, x ≠ M.zero := by
  induction l generalizing a with
  | nil => exact ⟨h, nofun⟩
  | cons y ys ih =>
    obtain ⟨hay, hys⟩ := ih h
    obtain ⟨ha, hy⟩ := M.mul_ne_zero hay
    exact ⟨ha, List.forall_mem_cons.mpr ⟨hy, hys⟩⟩

/-- list name and value of one lookup, as `score` forms them -/
def entry (indexed : Bool) (c : Char) (v : CPs) : String × CPs :=
  (if indexed then lbl c v.length else String.ofList [c], v)

/-- the table lookups `score` performs for the segments of a supported parse, in the code's order -/
def lookups (p : Parsed) : List (String × CPs) :=
  p.walks.map (entry true 'K') ++ (p.years.map (entry false 'Y') ++
  (p.contexts.map (entry false 'X') ++ (p.alphas.map (entry true 'A') ++
  (p.masks.map (entry true 'C') ++ (p.digits.map (entry true 'D') ++
  p.others.map (entry true 'O'))))))

/-- the factor a lookup contributes -/
def fac {P : Type} (zero : P) (g : ScoreG P) (x : String × CPs) : P := g.look zero x.1 x.2

section
variable {P : Type} {mul : P → P → P} {gt : P → P → Bool} {one zero limit : P} {g : ScoreG P} {p : Parsed}
  {omenOk : Bool}

theorem score_supported (hnz : (score mul gt one zero limit g p omenOk).prob ≠ zero) :
    p.emails = [] ∧ p.websites = [] ∧ p.supported = true := by
  revert hnz
  -- the cases are the branches of `score` in order
  fun_cases score mul gt one zero limit g p omenOk with
  | case1 | case2 | case3 => exact fun hnz => absurd rfl hnz
  | case4 h1 h2 h3 => exact fun _ => ⟨by simpa using h1, by simpa using h2, by simpa using h3⟩

/-- the score is the left fold of the product over the segments' lookups, times the base structure's: no law of the monoid is
needed -/
theorem score_prob (he : p.emails = []) (hw : p.websites = []) (hs : p.supported = true) :
    (score mul gt one zero limit g p omenOk).prob =
      mul (prodL mul one ((lookups p).map (fac zero g))) (g.look zero "B" (cpsOfString p.structure')) := by
  -- the product over the appended lists as nested folds, which is how `score` computes it
  simp only [lookups, prodL, List.map_append, List.foldl_append, List.foldl_map]
  rw [score, he, hw, hs]
  rfl

end

end Pcfg.ScoreB

namespace Pcfg.Detect

theorem ScoreG.look_ne_zero {P : Type} {g : ScoreG P} {zero : P} {name : String}
    {v : CPs} (h : g.look zero name v ≠ zero) :
    ∃ items, (name, items) ∈ g ∧ (v, g.look zero name v) ∈ items := by
  revert h
  -- the list `name` is missing, or it is `items`
  fun_cases ScoreG.look g zero name v with
  | case1 hf => exact fun h => absurd rfl h
  | case2 n items hf =>
    obtain rfl : n = name := eq_of_beq (List.find?_some hf :)
    cases hi : items.find? (·.1 == v) with
    | none => exact fun h => absurd rfl h
    | some q =>
      obtain rfl : q.1 = v := eq_of_beq (List.find?_some hi :)
      exact fun _ => ⟨items, List.mem_of_find?_eq_some hf, List.mem_of_find?_eq_some hi⟩

/-- everything the parser tallied for the password has an entry of non-zero probability in the list it
was tallied into (C06: every counted item is written with probability count/total > 0), and so has its
base structure -/
structure AllListed {P : Type} (zero : P) (g : ScoreG P) (p : Parsed) : Prop where
  walks : ∀ v ∈ p.walks, g.look zero (lbl 'K' v.length) v ≠ zero
  years : ∀ v ∈ p.years, g.look zero "Y" v ≠ zero
  contexts : ∀ v ∈ p.contexts, g.look zero "X" v ≠ zero
  alphas : ∀ v ∈ p.alphas, g.look zero (lbl 'A' v.length) v ≠ zero
  masks : ∀ v ∈ p.masks, g.look zero (lbl 'C' v.length) v ≠ zero
  digits : ∀ v ∈ p.digits, g.look zero (lbl 'D' v.length) v ≠ zero
  others : ∀ v ∈ p.others, g.look zero (lbl 'O' v.length) v ≠ zero
  base : g.look zero "B" (cpsOfString p.structure') ≠ zero

theorem score_ne_zero_of_listed {P : Type} (M : CMon P)
    (hnzd : ∀ a b, a ≠ M.zero → b ≠ M.zero → M.mul a b ≠ M.zero) (hone : M.one ≠ M.zero)
    (gt : P → P → Bool) (limit : P) (g : ScoreG P) (p : Parsed) (omenOk : Bool)
    (he : p.emails = []) (hw : p.websites = []) (hs : p.supported = true)
    (hin : AllListed M.zero g p) :
    (score M.mul gt M.one M.zero limit g p omenOk).prob ≠ M.zero := by
  have hl : ∀ x ∈ (ScoreB.lookups p).map (ScoreB.fac M.zero g), x ≠ M.zero := by
    simp only [ScoreB.lookups, List.forall_mem_append, List.forall_mem_map]
    exact ⟨hin.walks, hin.years, hin.contexts, hin.alphas, hin.masks, hin.digits, hin.others⟩
  rw [ScoreB.score_prob he hw hs]
  exact hnzd _ _ (List.foldlRecOn (motive := (· ≠ M.zero)) _ _ hone fun a ha x hx => hnzd a x ha (hl x hx)) hin.base

end Pcfg.Detect
