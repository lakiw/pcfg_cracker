import PcfgVerif.Lemmas.ParseLabelled
import PcfgVerif.Lemmas.ScoreLookups
import PcfgVerif.Lemmas.CaseMapping
/-! The promise as a map over the parser's *items* (label, text, and for a word its record).  The parser's side: the items of a
supported parse in password order (`parse_items`) — up to order they are the sections (`parse_labelled`), their look-ups
(`Item.lookups`) are the scorer's, and each is as `Item.OK` says.  The guesser's side: for such an item with non-zero look-ups the
grammar holds a piece (`ItemBuilt`, `item_built`), and the pieces taken in password order (`built_all`) make the pre-terminal. -/
namespace Pcfg.ScoreB
open Pcfg.Detect

/-- label, section text, and for a word its record -/
abbrev Item := String × CPs × Option AlphaRec

/-- what the scorer looks up for an item, under its names (`scName`) of the guesser's variables -/
def Item.lookups : Item → List (String × CPs)
  | (l, text, none) => [(scName l, text)]
  | (_, _, some r) => [(scName (lbl 'A' r.word.length), r.word), (scName (lbl 'C' r.mask.length), r.mask)]

/-- what is known of an item of a parse: a label under which the guesser stores the text as it is; for a word the label
`A<n>` of its text, and its record -/
def Item.OK (U : UEnv) (pw : CPs) : Item → Prop
  | (l, _, none) => PlainLabel l
  | (l, text, some r) => l = lbl 'A' text.length ∧ text = r.orig ∧ RecOK U pw r

section
variable (p : Parsed) (recs : List AlphaRec)

/-- the items of a parse without e-mail and website, in the order of `reported` -/
def items : List Item :=
  (p.others.map fun v => (lbl 'O' v.length, v, none)) ++
  ((p.digits.map fun v => (lbl 'D' v.length, v, none)) ++
  ((recs.map fun r => (lbl 'A' r.orig.length, r.orig, some r)) ++
  ((p.contexts.map fun v => ("X1", v, none)) ++ ((p.years.map fun v => ("Y1", v, none)) ++
  (p.walks.map fun v => (lbl 'K' v.length, v, none))))))

theorem items_pairs : (items p recs).map (fun x => (x.1, x.2.1)) = reported p [] recs := by
  simp [items, reported, recPair, List.map_map, Function.comp_def]

/-- the `A` and `C` look-ups interleaved record by record are a permutation of all `A` then all `C` (`flatMap_pair_perm`);
the other categories only change places as blocks -/
theorem lookups_perm (ha : p.alphas = recs.map (·.word)) (hm : p.masks = recs.map (·.mask)) :
    (lookups p).Perm ((items p recs).flatMap Item.lookups) := by
  have e : (items p recs).flatMap Item.lookups =
      p.others.map (entry true 'O') ++ (p.digits.map (entry true 'D') ++
      ((recs.flatMap fun r => [entry true 'A' r.word, entry true 'C' r.mask]) ++
      (p.contexts.map (entry false 'X') ++ (p.years.map (entry false 'Y') ++
      p.walks.map (entry true 'K'))))) := by
    simp only [items, List.flatMap_append, List.flatMap_map, Item.lookups, ← List.map_eq_flatMap,
      scName_lbl 'O' _ (by decide) (by decide), scName_lbl 'D' _ (by decide) (by decide),
      scName_lbl 'A' _ (by decide) (by decide), scName_lbl 'C' _ (by decide) (by decide),
      scName_lbl 'K' _ (by decide) (by decide), scName_Y1, scName_X1]
    rfl
  rw [e, List.perm_iff_count]
  intro a
  have := (List.flatMap_pair_perm (fun r => entry true 'A' r.word) (fun r => entry true 'C' r.mask) recs).count_eq a
  simp only [lookups, ha, hm, List.map_map, Function.comp_def, List.count_append] at this ⊢
  omega

theorem items_ok (U : UEnv) (pw : CPs) (hrec : ∀ r ∈ recs, RecOK U pw r) (x : Item) (hx : x ∈ items p recs) :
    x.OK U pw := by
  simp only [items, List.mem_append, List.mem_map] at hx
  rcases hx with ⟨v, _, rfl⟩ | ⟨v, _, rfl⟩ | ⟨r, hr, rfl⟩ | ⟨v, _, rfl⟩ | ⟨v, _, rfl⟩ | ⟨v, _, rfl⟩
  · exact plainLabel_lbl 'O' _ (by simp)
  · exact plainLabel_lbl 'D' _ (by simp)
  · exact ⟨rfl, rfl, hrec r hr⟩
  · exact plainLabel_X1
  · exact plainLabel_Y1
  · exact plainLabel_lbl 'K' _ (by simp)

end

theorem labelled_eq_map : ∀ (secs : List Sec), AllLabelled secs →
    labelled secs = secs.map fun s => (lab s, s.1)
  | [], _ => rfl
  | (t, none) :: _, h => absurd (h (t, none) (by simp)) (by simp)
  | (t, some l) :: r, h => by
    rw [labelled_cons_some, labelled_eq_map r fun s hs => h s (by simp [hs])]; rfl

theorem supported_noEW (secs : List Sec) (hlab : AllLabelled secs)
    (hsup : (baseStructure secs).1 = true) : ∀ s ∈ secs, lab s ≠ "E" ∧ lab s ≠ "W" := by
  intro s hs
  have h1 := List.all_eq_true.mp hsup s hs
  obtain ⟨l, hl⟩ := Option.isSome_iff_exists.mp (hlab s hs)
  simp only [hl, lab, Option.getD_some] at h1 ⊢
  constructor <;> rintro rfl <;> simp at h1

/-- **the items of a supported parse, in password order**: their look-ups are the scorer's, they spell the password, none is
empty, and their labels are those of the sections, one by one -/
theorem parse_items (U : UEnv) (cfg : MWCfg) (t : MWTable) (pw : CPs) (hne : pw ≠ [])
    (hl : LenPres U pw) (hsup : (parse U cfg t pw).supported = true) :
    ∃ its : List Item,
      (lookups (parse U cfg t pw)).Perm (its.flatMap Item.lookups) ∧
      (∀ x ∈ its, x.OK U pw ∧ x.2.1 ≠ []) ∧
      its.map (·.1) = (parse U cfg t pw).sections.map lab ∧ its.flatMap (·.2.1) = pw := by
  obtain ⟨htile, hlab, ew, recs, hew, ha, hm, hrec, -, hperm⟩ := parse_labelled U cfg t pw hne hl
  rw [labelled_eq_map _ hlab] at hperm
  have hnoEW := supported_noEW _ hlab hsup
  have hspell := tiles_spell U pw _ 0 htile fun s hs h => (hnoEW s hs).2 (by rw [lab, h]; rfl)
  obtain rfl : ew = [] := List.eq_nil_iff_forall_not_mem.mpr fun x hx => by
    have hx' := hperm.mem_iff.mpr (show x ∈ reported _ ew recs by simp only [reported, List.mem_append, hx, true_or, or_true])
    obtain ⟨s, hs, rfl⟩ := List.mem_map.mp hx'
    rcases hew _ hx with h | h
    · exact (hnoEW s hs).1 h
    · exact (hnoEW s hs).2 h
  rw [← items_pairs] at hperm
  obtain ⟨its, hits, hmap⟩ := List.perm_map_inv hperm.symm
  have e2 : its.map (·.2.1) = (parse U cfg t pw).sections.map (·.1) := by
    simpa [List.map_map, Function.comp_def] using congrArg (List.map Prod.snd) hmap
  refine ⟨its, ?_, fun x hx => ⟨?_, ?_⟩, ?_, ?_⟩
  · exact (lookups_perm _ recs ha hm).trans (hits.symm.flatMap_right _)
  · exact items_ok _ recs U pw hrec x (hits.mem_iff.mp hx)
  · obtain ⟨s, hs, h⟩ := List.mem_map.mp (e2 ▸ List.mem_map_of_mem (f := fun y : Item => y.2.1) hx)
    exact h ▸ hspell.2 s hs
  · simpa [List.map_map, Function.comp_def] using congrArg (List.map Prod.fst) hmap
  · rw [List.flatMap_def, e2, ← List.flatMap_def, hspell.1, List.drop_zero]

/-- `_find_prob` when every chosen index is in range: the left fold of the product over the entries found -/
theorem probFold_entries {P : Type} (O : POps P) (colP : String → List P) :
    ∀ (pt : PT) (ps : List P) (acc : P), pt.map (fun ti => (colP ti.1)[ti.2]?) = ps.map some →
      probFold O acc ((pt.map (·.1)).map colP) (pt.map (·.2)) = ps.foldl O.mul acc
  | [], [], _, _ => rfl
  | ti :: pt, p :: ps, acc, h => by
    obtain ⟨(h1 : (colP ti.1)[ti.2]? = some p), h2⟩ := List.cons.inj h
    rw [List.map_cons, List.map_cons, List.map_cons, probFold, h1]
    exact probFold_entries O colP pt ps _ h2

section
variable {P : Type} (zero : P) (U : UEnv) (upper : Char → List Char) (g : ScoreG P) (V : GView P)

/-- what is built for an item: a piece in the grammar with the item's text, whose variables are the case-inserted label and
whose groups hold, in the guesser's columns, the factors the scorer looks up for the item -/
def ItemBuilt (x : Item) : Prop :=
  ∃ piece : Piece, (piece.InGrammar upper (isUp U) V.E ∧ piece.WordNonEmpty) ∧ piece.text = toStr x.2.1 ∧
    piece.pt.map (·.1) = insC x.1 ∧
    piece.pt.map (fun ti => (V.colP ti.1)[ti.2]?) = (x.lookups.map (fac zero g)).map some

theorem item_built (hag : Agree zero g V) (pw : CPs) (hsc : ScalarCPs pw) (hcase : CaseInvAll U upper pw) (x : Item)
    (hx : x.OK U pw) (hne : x.2.1 ≠ []) (hnz : ∀ y ∈ x.lookups, fac zero g y ≠ zero) : ItemBuilt zero U upper g V x := by
  rcases x with ⟨l, text, _ | r⟩
  · -- an item other than a word: one variable, named by the label
    obtain ⟨⟨cat, hhead, hM, hC⟩, hins, htl⟩ := hx
    obtain ⟨j, vals, hv, hmem, hcol⟩ := hag.term l text htl (hnz (scName l, text) (List.mem_singleton_self _))
    exact ⟨.plain l j (toStr text), ⟨⟨cat, vals, hhead, hM, hC, hv, hmem⟩, trivial⟩, rfl, hins.symm,
      congrArg (fun o => [o]) hcol⟩
  · -- a word: the variables `A<n>` (the word lower-cased) and `C<n>` (its mask); the case mapping is one-to-one on the
    -- password, so the mask applied to the stored word gives the section text back (`tame_of_lowerOf`)
    obtain ⟨rfl, rfl, hmask, hwl, hlow⟩ := hx
    have hml : r.mask.length = r.orig.length := by rw [hmask, maskOfCP_length]
    obtain ⟨i, valsA, hvA, hmemA, hcolA⟩ := hag.term (lbl 'A' r.word.length) r.word (.inl ⟨'A', _, by decide, rfl⟩)
      (hnz (scName (lbl 'A' r.word.length), r.word) (List.mem_cons_self ..))
    obtain ⟨j, valsC, hvC, hmemC, hcolC⟩ := hag.term (lbl 'C' r.mask.length) r.mask (.inl ⟨'C', _, by decide, rfl⟩)
      (hnz (scName (lbl 'C' r.mask.length), r.mask) (List.mem_cons_of_mem _ (List.mem_cons_self ..)))
    have hwne : toStr r.word ≠ [] := fun h =>
      hne (List.length_eq_zero_iff.mp (by rw [← hwl, ← toStr_length, h]; rfl))
    have hh : valsC.headD [] ∈ valsC := by
      cases valsC with
      | nil => cases hmemC
      | cons a as => exact List.mem_cons_self ..
    refine ⟨.alpha (lbl 'A' r.word.length) i (lbl 'C' r.mask.length) j (toStr r.orig) (toStr r.word),
      ⟨⟨⟨'A', valsA, head_lbl 'A' _, by decide, by decide, hvA, hmemA⟩,
        ⟨valsC, head_lbl 'C' _, hvC, by rw [maskOf_toStr U r.orig (lowerOf_scalar U pw r.orig r.word hsc hlow), ← hmask]; exact hmemC,
          by rw [hag.masks _ j valsC hvC _ hh, toStr_length, hml, hwl]⟩,
        tame_of_lowerOf upper U pw r.orig r.word hsc hcase hwl hlow⟩, hwne⟩, rfl, ?_, ?_⟩
    · show [lbl 'A' r.word.length, lbl 'C' r.mask.length] = _
      rw [insC_lblA, hwl, hml]
    · show [(V.colP _)[i]?, (V.colP _)[j]?] = _
      rw [hcolA, hcolC]
      rfl

/-- the pieces of a list of items, one after the other -/
theorem built_all (its : List Item) (h : ∀ x ∈ its, ItemBuilt zero U upper g V x) :
    ∃ pieces : List Piece,
      (∀ p ∈ pieces, p.InGrammar upper (isUp U) V.E ∧ p.WordNonEmpty) ∧
      pieces.flatMap Piece.text = toStr (its.flatMap (·.2.1)) ∧
      (pieces.flatMap Piece.pt).map (·.1) = (its.map (·.1)).flatMap insC ∧
      (pieces.flatMap Piece.pt).map (fun ti => (V.colP ti.1)[ti.2]?) =
        ((its.flatMap Item.lookups).map (fac zero g)).map some := by
  induction its with
  | nil => exact ⟨[], nofun, rfl, rfl, rfl⟩
  | cons x r ih =>
    obtain ⟨piece, hin, ht, hpt, hp1⟩ := h x (List.mem_cons_self ..)
    obtain ⟨pieces, hins, hts, hpts, hp2⟩ := ih fun y hy => h y (List.mem_cons_of_mem _ hy)
    refine ⟨piece :: pieces, List.forall_mem_cons.mpr ⟨hin, hins⟩, ?_, ?_, ?_⟩
    · rw [List.flatMap_cons, List.flatMap_cons, ht, hts, toStr_append]
    · rw [List.flatMap_cons, List.map_append, hpt, hpts]; rfl
    · rw [List.flatMap_cons, List.flatMap_cons, List.map_append, List.map_append, List.map_append, hp1, hp2]

end

end Pcfg.ScoreB
