import PcfgVerif.Lemmas.DetectTiling
/-! The list-level loop `splitLoop`: one invariant principle and what follows from it; then that a `skipFirst` loop with the
fuel the pipeline gives it looks at every section. -/
namespace Pcfg.Detect

/-- Every step of the loop either moves a section from `todo` to `done` or replaces an unlabelled section by the
detector's pieces and records the found item; so a property of (`done ++ todo`, `found`) that survives the latter
holds of the result. -/
theorem splitLoop_inv {F : Type} (detect : CPs → Option (List Sec × F)) (adv : Advance)
    (Inv : List Sec → List F → Prop)
    (hstep : ∀ (done : List Sec) (text : CPs) (rest pieces : List Sec) (f : F) (found : List F),
      Inv (done ++ (text, none) :: rest) found → detect text = some (pieces, f) →
      Inv (done ++ (pieces ++ rest)) (found ++ [f])) (fuel : Nat)
    (done todo : List Sec) (found : List F) (h : Inv (done ++ todo) found) :
    Inv (splitLoop detect adv fuel done todo found).1 (splitLoop detect adv fuel done todo found).2 := by
  -- the cases are the seven branches of `splitLoop`, in the order of its definition
  fun_induction splitLoop detect adv fuel done todo found with
  | case1 => exact h
  | case2 => simpa using h
  | case3 _ _ _ _ _ _ ih => exact ih (by simpa using h)
  | case4 _ _ _ _ _ _ ih => exact ih (by simpa using h)
  | case5 _ done found text rest f p ps hadv hdt ih =>
    exact hadv ▸ ih (by simpa using hstep done text rest _ f found h hdt)
  | case6 _ done found text rest f hadv hdt ih => exact hadv ▸ ih (hstep done text rest _ f found h hdt)
  | case7 _ done found text rest pieces f hdt hadv ih => exact hadv ▸ ih (hstep done text rest _ f found h hdt)

/-- labelled sections are never touched by the loop: they all survive -/
theorem splitLoop_keeps_labelled {F : Type} (detect : CPs → Option (List Sec × F)) (adv : Advance)
    (fuel : Nat) (done todo : List Sec) (found : List F) (s : Sec) (hs : s.2.isSome = true)
    (hm : s ∈ done ++ todo) : s ∈ (splitLoop detect adv fuel done todo found).1 := by
  refine splitLoop_inv detect adv (fun secs _ => s ∈ secs) ?_ fuel done todo found hm
  intro done text rest pieces f _ h _
  have : s ≠ (text, none) := fun e => by simp [e] at hs
  simp only [List.mem_append, List.mem_cons, this, false_or] at h ⊢
  exact h.imp_right .inr

theorem tiles_step {F : Type} (U : UEnv) (detect : CPs → Option (List Sec × F)) (hd : DetectorOK U detect)
    (pw : CPs) (hl : LenPres U pw) (done : List Sec) (text : CPs) (rest pieces : List Sec) (f : F)
    (h : TilesFrom U pw 0 (done ++ (text, none) :: rest)) (hdt : detect text = some (pieces, f)) :
    TilesFrom U pw 0 (done ++ (pieces ++ rest)) ∧ LenPres U text ∧ ∃ a b, text = slice pw a b := by
  obtain ⟨_, hsuf, hback⟩ := tilesFrom_append U pw done _ 0 h
  have htext : text = slice pw _ (_ + text.length) := hsuf.1.2.2.1 (by simp)
  have hlp : LenPres U text := by rw [htext]; exact lenPres_slice U pw _ _ hl
  exact ⟨hback _ (tiles_replace U pw _ text pieces rest hl hsuf (hd text pieces f hsuf.1.1 hlp hdt).2), hlp, _, _, htext⟩

theorem splitLoop_tiles {F : Type} (U : UEnv) (detect : CPs → Option (List Sec × F)) (adv : Advance)
    (hd : DetectorOK U detect) (pw : CPs) (hl : LenPres U pw)
    (fuel : Nat) (done todo : List Sec) (found : List F)
    (h : TilesFrom U pw 0 (done ++ todo)) :
    TilesFrom U pw 0 (splitLoop detect adv fuel done todo found).1 :=
  splitLoop_inv detect adv (fun secs _ => TilesFrom U pw 0 secs)
    (fun done text rest pieces f _ h hdt => (tiles_step U detect hd pw hl done text rest pieces f h hdt).1)
    fuel done todo found h

/-- a whole pass as the pipeline runs it -/
theorem stage_tiles {F : Type} (U : UEnv) (pw : CPs) (hl : LenPres U pw)
    (detect : CPs → Option (List Sec × F)) (adv : Advance) (hd : DetectorOK U detect)
    (s : List Sec) (h : TilesFrom U pw 0 s) :
    TilesFrom U pw 0 (splitLoop detect adv (loopFuel s) [] s []).1 :=
  splitLoop_tiles U detect adv hd pw hl (loopFuel s) [] s [] h

/-! `splitLoop` has a fuel argument; what is above holds for any fuel.  With the fuel the pipeline gives it (`loopFuel`) a
`skipFirst` loop really ends with `todo = []`, and then every section that is still unlabelled is *clean* for the detector:
it found nothing in it, or it is the text in front of a find. -/

/-- loop measure: one per section still to look at, plus twice the length of its text if it is unlabelled (`n` characters
can fall into `n` labelled sections with `n + 1` unlabelled ones around them, each a turn of the loop) -/
def secMeasure (secs : List Sec) : Nat :=
  (secs.map fun s => 1 + bif s.2.isNone then 2 * s.1.length else 0).sum

theorem secMeasure_append (a b : List Sec) : secMeasure (a ++ b) = secMeasure a + secMeasure b := by
  simp only [secMeasure, List.map_append, List.sum_append]

/-- one turn of a `skipFirst` loop: the first section `x` gives way to pieces that weigh no more (to itself, if it stays as
it is), and the first of them is not looked at again -/
theorem secMeasure_skip {x p : Sec} {ps rest : List Sec} {fuel : Nat} (hp : secMeasure (p :: ps) ≤ secMeasure [x])
    (h : secMeasure (x :: rest) < fuel + 1) : secMeasure (ps ++ rest) < fuel := by
  have hps : secMeasure ps < secMeasure (p :: ps) := Nat.lt_add_of_pos_left (Nat.add_pos_left Nat.one_pos _)
  rw [secMeasure_append]
  exact Nat.lt_of_lt_of_le (Nat.add_lt_add_right (Nat.lt_of_lt_of_le hps hp) _) (Nat.le_of_lt_succ h)

theorem secMeasure_lt_loopFuel (secs : List Sec) : secMeasure secs < loopFuel secs := by
  unfold loopFuel
  induction secs with
  | nil => exact Nat.zero_lt_succ _
  | cons s r ih =>
    have hs : secMeasure (s :: r) ≤ 1 + 2 * s.1.length + secMeasure r :=
      Nat.add_le_add_right (Nat.add_le_add_left (by cases s.2.isNone <;> simp) 1) _
    rw [List.map_cons, List.sum_cons, List.length_cons]
    omega

theorem secMeasure_labelled (mid : List Sec) (h : ∀ p ∈ mid, p.2 ≠ none) : secMeasure mid = mid.length := by
  induction mid with
  | nil => rfl
  | cons s r ih =>
    obtain ⟨hs, hr⟩ := List.forall_mem_cons.mp h
    obtain ⟨t, _ | l⟩ := s
    · exact absurd rfl hs
    · exact (Nat.add_comm 1 _).trans (congrArg Nat.succ (ih hr))

/-- a cut around labelled sections weighs no more than the text did -/
theorem secMeasure_cut_le {text : CPs} {s e : Nat} {mid : List Sec} (hmid : ∀ p ∈ mid, p.2 ≠ none)
    (hne : mid ≠ []) (hlen : mid.length ≤ e - s) (he : e ≤ text.length) :
    secMeasure (cut text s e mid) ≤ secMeasure [(text, none)] := by
  -- an optional unlabelled piece
  have opt (c : Prop) [Decidable c] (t : CPs) : secMeasure (if c then [] else [(t, none)]) ≤ 1 + 2 * t.length := by
    split
    · exact Nat.zero_le _
    · exact Nat.le_refl _
  have hf := opt (s = 0) (text.take s)
  have ht := opt (e = text.length) (text.drop e)
  have hs := List.length_take_le s text
  rw [List.length_drop] at ht
  have hpos := List.length_pos_iff.mpr hne
  rw [cut, secMeasure_append, secMeasure_append, secMeasure_labelled mid hmid]
  show _ ≤ 1 + 2 * text.length
  omega

/-- what makes a `skipFirst` loop exhaustive for a cleanliness predicate: on a good text (goodness passes to substrings)
the detector finds nothing only in a clean text, and otherwise answers with a cut around non-empty labelled sections whose
front piece is clean; `mid.length ≤ e - s` (no more labelled pieces than characters they replace) is what pays for them in
`secMeasure_cut_le`, an unlabelled character weighing 2 in `secMeasure` -/
structure Exhausts {F : Type} (detect : CPs → Option (List Sec × F)) (Good Clean : CPs → Prop) : Prop where
  good_slice : ∀ text a b, Good text → Good (slice text a b)
  none_clean : ∀ text, Good text → detect text = none → Clean text
  some_cut : ∀ text pieces f, Good text → detect text = some (pieces, f) →
    ∃ s e mid, pieces = cut text s e mid ∧ e ≤ text.length ∧ (∀ p ∈ mid, p.2 ≠ none) ∧
      mid ≠ [] ∧ mid.length ≤ e - s ∧ (s ≠ 0 → Clean (text.take s))

theorem splitLoop_exhaustive {F : Type} (detect : CPs → Option (List Sec × F)) (Good Clean : CPs → Prop)
    (hx : Exhausts detect Good Clean) (fuel : Nat) (done todo : List Sec) (found : List F)
    (hm : secMeasure todo < fuel) (hg : ∀ s ∈ todo, s.2 = none → Good s.1)
    (hd : ∀ s ∈ done, s.2 = none → Good s.1 ∧ Clean s.1) :
    ∀ s ∈ (splitLoop detect .skipFirst fuel done todo found).1, s.2 = none → Good s.1 ∧ Clean s.1 := by
  -- the cases are the seven branches of `splitLoop`, in the order of its definition
  fun_induction splitLoop detect .skipFirst fuel done todo found with
  | case1 => exact absurd hm (Nat.not_lt_zero _)
  | case2 => exact hd
  | case3 fuel done found text l rest ih =>
    exact ih (secMeasure_skip (ps := []) (Nat.le_refl _) hm) (fun s hs => hg s (.tail _ hs))
      (List.forall_mem_append.mpr ⟨hd, List.forall_mem_singleton.mpr nofun⟩)
  | case4 fuel done found text rest hdt ih =>
    obtain ⟨hgt, hgr⟩ := List.forall_mem_cons.mp hg
    exact ih (secMeasure_skip (ps := []) (Nat.le_refl _) hm) hgr (List.forall_mem_append.mpr
      ⟨hd, List.forall_mem_singleton.mpr fun _ => ⟨hgt rfl, hx.none_clean text (hgt rfl) hdt⟩⟩)
  | case5 fuel done found text rest f p ps _ hdt ih =>
    obtain ⟨hgt, hgr⟩ := List.forall_mem_cons.mp hg
    obtain ⟨s, e, mid, hp, he, hmid, hne, hlen, hfront⟩ := hx.some_cut text _ f (hgt rfl) hdt
    -- the unlabelled pieces are substrings of the text
    have hgp : ∀ q ∈ p :: ps, q.2 = none → Good q.1 := fun q hq hn => by
      obtain ⟨a, b, hab⟩ := cut_unlabelled hmid (hp ▸ hq) hn
      exact hab ▸ hx.good_slice text a b (hgt rfl)
    obtain ⟨hgp0, hgps⟩ := List.forall_mem_cons.mp hgp
    refine ih (secMeasure_skip (hp ▸ secMeasure_cut_le hmid hne hlen he) hm) (List.forall_mem_append.mpr ⟨hgps, hgr⟩)
      (List.forall_mem_append.mpr ⟨hd, List.forall_mem_singleton.mpr fun hn => ⟨hgp0 hn, ?_⟩⟩)
    rcases cut_head hne hp.symm with ⟨h0, rfl⟩ | hpm
    · exact hfront h0
    · exact absurd hn (hmid p hpm)
  | case6 fuel done found text rest f _ hdt ih =>
    obtain ⟨s, e, mid, hp, -, -, hne, -⟩ := hx.some_cut text _ f (hg _ (.head _) rfl) hdt
    exact absurd hp.symm (cut_ne_nil hne)
  | case7 _ _ _ _ _ _ _ _ h => cases h

/-- a whole pass with the fuel the pipeline gives it -/
theorem stage_exhaustive {F : Type} (detect : CPs → Option (List Sec × F)) (Good Clean : CPs → Prop)
    (hx : Exhausts detect Good Clean) (secs : List Sec) (hg : ∀ s ∈ secs, s.2 = none → Good s.1) :
    ∀ s ∈ (splitLoop detect .skipFirst (loopFuel secs) [] secs []).1, s.2 = none → Good s.1 ∧ Clean s.1 :=
  splitLoop_exhaustive detect Good Clean hx (loopFuel secs) [] secs [] (secMeasure_lt_loopFuel secs) hg
    (List.forall_mem_nil _)

end Pcfg.Detect
