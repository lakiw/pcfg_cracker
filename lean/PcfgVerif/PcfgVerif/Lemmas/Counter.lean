import PcfgVerif.Lemmas.Assoc
/-!
# A Python `Counter`

`counter[k] += 1` is the dict update `Omen.assocUpd` with the increment (`ctrInc`); `MWTable.bump · · none`, `Trainer.SCtr.inc` and
`Trainer.incOpt` unfold to it at three key types, and `MWTable.count` to `ctrGet`.  After a run of increments the count read back
is the number of increments of that key (`ctrGet_foldl`), and every entry has what increments keep and fresh keys have
(`foldl_ctrInc_inv`: a positive count, a key that was fed); both are instances of the dict lemmas (`Lemmas/Assoc.lean`).
-/
namespace Pcfg.Trainer
open Omen
variable {κ : Type} [BEq κ]

/-- `counter[k] += 1` on an association list in insertion order -/
def ctrInc (c : List (κ × Nat)) (k : κ) : List (κ × Nat) :=
  assocUpd c k fun o => match o with | some n => n + 1 | none => 1

/-- `counter[k]` (0 for a missing key) -/
def ctrGet (c : List (κ × Nat)) (k : κ) : Nat := (assocGet c k).getD 0

def CtrPos (c : List (κ × Nat)) : Prop := ∀ p ∈ c, 0 < p.2

/-- what every increment keeps and every fresh key has holds of all entries after a run of increments -/
theorem foldl_ctrInc_inv (I : κ → Nat → Prop) (hinc : ∀ k n, I k n → I k (n + 1)) (ks : List κ) (hnew : ∀ k ∈ ks, I k 1)
    (c : List (κ × Nat)) (h : ∀ p ∈ c, I p.1 p.2) : ∀ p ∈ ks.foldl ctrInc c, I p.1 p.2 := by
  induction ks generalizing c with
  | nil => exact h
  | cons k r ih =>
    exact ih (fun k' hk' => hnew k' (List.mem_cons_of_mem _ hk')) _
      (assocUpd_inv I c k _ h (fun q hq _ => hinc _ _ (h q hq)) (hnew k (List.mem_cons_self ..)))

theorem ctrPos_foldl (ks : List κ) : CtrPos (ks.foldl ctrInc []) :=
  foldl_ctrInc_inv (fun _ n => 0 < n) (fun _ _ _ => Nat.succ_pos _) ks (fun _ _ => Nat.one_pos) [] nofun

theorem keys_foldl_ctrInc (ks : List κ) (p : κ × Nat) (hp : p ∈ ks.foldl ctrInc []) : p.1 ∈ ks :=
  foldl_ctrInc_inv (fun k _ => k ∈ ks) (fun _ _ h => h) ks (fun _ h => h) [] nofun p hp

variable [LawfulBEq κ]

theorem ctrGet_inc (c : List (κ × Nat)) (k x : κ) : ctrGet (ctrInc c k) x = ctrGet c x + if k == x then 1 else 0 := by
  unfold ctrGet ctrInc
  rw [assocGet_assocUpd, BEq.comm]
  cases h : k == x
  · rfl
  · rw [beq_iff_eq.mp h]
    cases assocGet c x <;> rfl

theorem ctrGet_foldl (ks : List κ) (c : List (κ × Nat)) (x : κ) :
    ctrGet (ks.foldl ctrInc c) x = ctrGet c x + ks.countP (· == x) := by
  induction ks generalizing c with
  | nil => rfl
  | cons k r ih => rw [List.foldl_cons, ih, ctrGet_inc, List.countP_cons, Nat.add_assoc, Nat.add_comm (List.countP _ r)]

theorem ctrGet_pos_of_mem (ks : List κ) (c : List (κ × Nat)) (x : κ) (h : x ∈ ks) : 0 < ctrGet (ks.foldl ctrInc c) x := by
  rw [ctrGet_foldl]
  exact Nat.add_pos_right _ (List.countP_pos_iff.mpr ⟨x, h, beq_self_eq_true x⟩)

theorem mem_of_ctrGet_pos (c : List (κ × Nat)) (k : κ) (h : 0 < ctrGet c k) : ∃ n, (k, n) ∈ c := by
  unfold ctrGet at h
  cases hg : assocGet c k with
  | none => rw [hg] at h; exact absurd h (Nat.lt_irrefl 0)
  | some n => exact ⟨n, assocGet_mem hg⟩

end Pcfg.Trainer
