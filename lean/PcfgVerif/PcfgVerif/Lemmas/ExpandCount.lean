import PcfgVerif.Lemmas.ExpandLemmas
/-!
# How many guesses a pre-terminal has

`productSpec` is "one value from each chosen group"; here: under `okSpec` (no lookup raises) its length is the product of the
sizes of the chosen groups (`productSpec_length`).
-/
namespace Pcfg

def groupSizes (g : EGrammar) (pt : PT) : List Nat :=
  pt.map fun p => ((g.values p.1 p.2).getD []).length

theorem productSpec_length (upper : Char → List Char) (g : EGrammar) (pt : PT) :
    ∀ cur : Str, okSpec upper g cur pt = true →
      (productSpec upper g cur pt).length = (groupSizes g pt).foldr (· * ·) 1 := by
  induction pt with
  | nil => intro cur _; simp [productSpec, groupSizes]
  | cons hd rest ih =>
    obtain ⟨t, i⟩ := hd
    intro cur hok
    obtain ⟨cat, first, vs, hcat, hvals, _, hall⟩ := okSpec_cons hok
    -- every value of the group opens a sublist of the same length: that of the rest
    rw [productSpec_cons hcat hvals, List.length_flatMap,
      List.map_congr_left (g := fun _ => (groupSizes g rest).foldr (· * ·) 1), List.map_const', List.sum_replicate_nat]
    · simp [groupSizes, hvals]
    · intro v hv
      obtain ⟨ng, hng, hokng⟩ := hall v hv
      simp only [List.headD_cons, hng]
      exact ih ng hokng

end Pcfg
