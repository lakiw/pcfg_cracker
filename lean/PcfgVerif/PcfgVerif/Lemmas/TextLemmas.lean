import PcfgVerif.Model.Text
/-! Python text primitives on code-point lists (`Model/Text.lean`): line splitting, `rstrip` / `lstrip`, `split` on one character. -/
namespace Pcfg

theorem toNat_ofNat (c : Nat) (h : c.isValidChar) : (Char.ofNat c).toNat = c := by
  simp [Char.ofNat, h, Char.ofNatAux, Char.toNat]

/-- A string literal is `String.ofList` of its characters by definitional unfolding, for the elaborator and for the kernel.
Rewriting with this (`rewrite`, not `rw`) in front of an evaluation keeps the kernel from decoding the literal's UTF-8 bytes
through `ByteArray.utf8Decode?`, a well-founded recursion that costs it about 15 k heartbeats per character. -/
theorem cpsOfString_ofList (l : List Char) : cpsOfString (String.ofList l) = l.map Char.toNat := by
  rw [cpsOfString, String.toList_ofList]

theorem isLineSep_10 : isLineSep 10 = true := by decide
theorem isLineSep_9 : isLineSep 9 = false := by decide
theorem isLineSep_13 : isLineSep 13 = true := by decide
theorem isPySpace_10 : isPySpace 10 = true := by decide
theorem isSurrogate_9 : isSurrogate 9 = false := by decide
theorem isSurrogate_10 : isSurrogate 10 = false := by decide

/-- a character that is no boundary only moves on: `\r` in front of `\n` is the second equation of `splitLinesKeep`, and when `\r`
is no boundary that equation does what the third does -/
theorem splitLinesKeep_cons_false (sep : Nat → Bool) (c : Nat) (rest cur : CPs) (h : sep c = false) :
    splitLinesKeep sep (c :: rest) cur = splitLinesKeep sep rest (c :: cur) := by
  have hn : ¬sep c = true := Bool.eq_false_iff.mp h
  by_cases hc : ∃ r, c = 13 ∧ rest = 10 :: r
  · obtain ⟨r, rfl, rfl⟩ := hc
    rw [splitLinesKeep.eq_2, if_neg hn]
  · rw [splitLinesKeep.eq_3 _ _ _ _ fun r h1 h2 => hc ⟨r, h1, h2⟩, if_neg hn]

theorem splitLinesKeep_line (sep : Nat → Bool) (h10 : sep 10 = true) (body rest cur : CPs)
    (hb : ∀ c ∈ body, sep c = false) :
    splitLinesKeep sep (body ++ 10 :: rest) cur = (cur.reverse ++ body ++ [10]) :: splitLinesKeep sep rest [] := by
  induction body generalizing cur with
  | nil =>
    rw [List.nil_append, splitLinesKeep.eq_3 _ _ _ _ (fun _ h => absurd h (by decide)), if_pos h10, List.append_nil, List.reverse_cons]
  | cons c body ih =>
    rw [List.cons_append, splitLinesKeep_cons_false _ _ _ _ (hb c (List.mem_cons_self ..)),
      ih _ fun x hx => hb x (List.mem_cons_of_mem _ hx), List.reverse_cons, List.append_assoc cur.reverse, List.singleton_append]

theorem splitLinesKeep_flatten (sep : Nat → Bool) (h10 : sep 10 = true) (lines : List CPs)
    (h : ∀ l ∈ lines, ∃ b, l = b ++ [10] ∧ ∀ c ∈ b, sep c = false) :
    splitLinesKeep sep lines.flatten [] = lines := by
  induction lines with
  | nil => rfl
  | cons l lines ih =>
    obtain ⟨⟨b, rfl, hb⟩, hl⟩ := List.forall_mem_cons.mp h
    rw [List.flatten_cons, List.append_assoc, List.singleton_append, splitLinesKeep_line sep h10 b _ [] hb, ih hl]
    rfl

theorem ne_lf_cr_of_not_lineSep {c : Nat} (h : isLineSep c = false) : c ≠ 10 ∧ c ≠ 13 :=
  ⟨fun e => (by rw [e, isLineSep_10] at h; cases h), fun e => (by rw [e, isLineSep_13] at h; cases h)⟩

/-- a line without `\r` is left alone by universal-newline translation -/
theorem tm_norm (l : CPs) (h : 13 ∉ l) :
    (match l.reverse with
      | 0x0a :: 0x0d :: r => (0x0a :: r).reverse
      | 0x0d :: r => (0x0a :: r).reverse
      | _ => l) = l := by
  split
  · rename_i r heq
    exact absurd (List.mem_reverse.mp (heq ▸ List.mem_cons_of_mem _ (List.mem_cons_self ..))) h
  · rename_i r heq
    exact absurd (List.mem_reverse.mp (heq ▸ List.mem_cons_self ..)) h
  · rfl

theorem textModeLines_flatten (lines : List CPs) (h : ∀ l ∈ lines, ∃ b, l = b ++ [10] ∧ ∀ c ∈ b, c ≠ 10 ∧ c ≠ 13) :
    textModeLines lines.flatten = lines := by
  rw [textModeLines, splitLinesKeep_flatten _ rfl lines fun l hl => (h l hl).imp fun b hb =>
    ⟨hb.1, fun c hc => Bool.or_eq_false_iff.mpr ⟨beq_false_of_ne (hb.2 c hc).1, beq_false_of_ne (hb.2 c hc).2⟩⟩]
  refine (List.map_congr_left fun l hl => tm_norm l fun hm => ?_).trans (List.map_id _)
  obtain ⟨b, rfl, hb⟩ := h l hl
  exact (List.mem_append.mp hm).elim (fun hm => (hb 13 hm).2 rfl) fun hm => absurd (List.mem_singleton.mp hm) (by decide)

theorem dropWhile_append_head (p : Nat → Bool) (lead s : CPs) (hlead : ∀ c ∈ lead, p c = true)
    (hs : ∀ c, s.head? = some c → p c = false) : (lead ++ s).dropWhile p = s := by
  rw [List.dropWhile_append_of_pos hlead]
  cases s with
  | nil => rfl
  | cons a r => rw [List.dropWhile_cons, hs a rfl]; rfl

theorem lstripWs_append (lead s : CPs) (hlead : ∀ c ∈ lead, isPySpace c = true)
    (hs : ∀ c, s.head? = some c → isPySpace c = false) :
    lstripWs (lead ++ s) = s :=
  dropWhile_append_head isPySpace lead s hlead hs

theorem dropWhile_reverse_append (p : Nat → Bool) (q tail : CPs) (htail : ∀ c ∈ tail, p c = true)
    (hq : ∀ c, q.getLast? = some c → p c = false) : ((q ++ tail).reverse.dropWhile p).reverse = q := by
  rw [List.reverse_append, dropWhile_append_head p _ _ (fun c hc => htail c (List.mem_reverse.mp hc)) (by rwa [List.head?_reverse]),
    List.reverse_reverse]

theorem forall_getLast?_append {α : Type} {P : α → Prop} (x : List α) {y : List α} (hy : y ≠ []) (h : ∀ c ∈ y, P c) :
    ∀ c, (x ++ y).getLast? = some c → P c := by
  intro c hc
  rw [List.getLast?_append, List.getLast?_eq_some_getLast hy, Option.some_or] at hc
  cases hc
  exact h _ (List.getLast_mem hy)

theorem rstripWs_append (q tail : CPs) (htail : ∀ c ∈ tail, isPySpace c = true)
    (hq : ∀ c, q.getLast? = some c → isPySpace c = false) : rstripWs (q ++ tail) = q :=
  dropWhile_reverse_append isPySpace q tail htail hq

theorem rstripChars_append (cs : List Nat) (q tail : CPs)
    (htail : ∀ c ∈ tail, cs.contains c = true)
    (hq : ∀ c, q.getLast? = some c → cs.contains c = false) :
    rstripChars cs (q ++ tail) = q :=
  dropWhile_reverse_append cs.contains q tail htail hq

theorem splitOnCp_ne_nil (sep : Nat) (p cur : CPs) : splitOnCp sep p cur ≠ [] := by
  induction p generalizing cur with
  | nil => simp [splitOnCp]
  | cons c rest ih =>
    unfold splitOnCp
    split
    · simp
    · exact ih _

theorem splitOnCp_append (sep : Nat) (v rest cur : CPs) (hv : ∀ c ∈ v, c ≠ sep) :
    splitOnCp sep (v ++ rest) cur = splitOnCp sep rest (v.reverse ++ cur) := by
  induction v generalizing cur with
  | nil => rfl
  | cons c v ih =>
    rw [List.cons_append, splitOnCp.eq_2, if_neg (by simpa using hv c (List.mem_cons_self ..)),
      ih _ fun x hx => hv x (List.mem_cons_of_mem _ hx)]
    simp

theorem splitOnCp_no_sep (sep : Nat) (p cur : CPs) (hp : ∀ c ∈ p, c ≠ sep) :
    splitOnCp sep p cur = [cur.reverse ++ p] := by
  rw [← List.append_nil p, splitOnCp_append sep p [] cur hp]
  simp [splitOnCp]

theorem splitOnCp_field (sep : Nat) (v rest cur : CPs) (hv : ∀ c ∈ v, c ≠ sep) :
    splitOnCp sep (v ++ sep :: rest) cur = (cur.reverse ++ v) :: splitOnCp sep rest [] := by
  rw [splitOnCp_append sep v _ cur hv]
  simp [splitOnCp]

end Pcfg
