import PcfgVerif.Model.ScorerSpec
import PcfgVerif.Lemmas.ReproLemmas
import PcfgVerif.Lemmas.TextLemmas
/-! Code points against the guesser's characters: masks, and `TamePair` from the domain clause
`CaseInvAll` for a word that is the lower-casing in context of its section text. -/
namespace Pcfg.ScoreB
open Pcfg.Detect

theorem toStr_append (a b : CPs) : toStr (a ++ b) = toStr a ++ toStr b := List.map_append

theorem scalar_sub (a b : CPs) (h : ScalarCPs b) (hs : ∀ c ∈ a, c ∈ b) : ScalarCPs a :=
  fun c hc => h c (hs c hc)

theorem mem_slice (s : CPs) (a b c : Nat) (h : c ∈ slice s a b) : c ∈ s :=
  List.mem_of_mem_drop (List.mem_of_mem_take h)

/-- upper-case test on characters induced by the one on code points -/
def isUp (U : UEnv) : Char → Bool := fun c => U.isUpper c.toNat

theorem isUp_ofNat (U : UEnv) (c : Nat) (h : c.isValidChar) : isUp U (Char.ofNat c) = U.isUpper c :=
  congrArg U.isUpper (toNat_ofNat c h)

theorem maskOf_toStr (U : UEnv) (o : CPs) (h : ScalarCPs o) :
    maskOf (isUp U) (toStr o) = toStr (maskOfCP U o) := by
  unfold maskOf toStr maskOfCP
  rw [List.map_map, List.map_map]
  refine List.map_congr_left fun c hc => ?_
  rw [Function.comp_apply, Function.comp_apply, isUp_ofNat U c (h c hc), apply_ite Char.ofNat, cpOf, cpOf,
    Char.ofNat_toNat, Char.ofNat_toNat]

theorem maskOfCP_length (U : UEnv) (o : CPs) : (maskOfCP U o).length = o.length := List.length_map _

theorem tame_of_pointwise (upper : Char → List Char) (isUpper : Char → Bool) (xs ys : CPs)
    (hlen : xs.length = ys.length)
    (hp : ∀ (i c d : Nat), xs[i]? = some c → ys[i]? = some d →
      (if isUpper (Char.ofNat c) then upper (Char.ofNat d) = [Char.ofNat c] else Char.ofNat d = Char.ofNat c)) :
    TamePair upper isUpper (toStr xs) (toStr ys) := by
  induction xs generalizing ys with
  | nil => cases ys with
    | nil => trivial
    | cons => nomatch hlen
  | cons c cs ih => cases ys with
    | nil => nomatch hlen
    | cons d ds => exact ⟨hp 0 c d rfl rfl, ih ds (Nat.succ.inj hlen) fun i => hp (i + 1)⟩

theorem getElem?_slice (s : CPs) (a b i c : Nat) (h : (slice s a b)[i]? = some c) : s[a + i]? = some c := by
  rw [slice, List.getElem?_take, Option.ite_none_right_eq_some, List.getElem?_drop] at h
  exact h.2

theorem lowerOf_scalar (U : UEnv) (pw orig word : CPs) (hsc : ScalarCPs pw)
    (h : LowerOf U pw orig word) : ScalarCPs orig := by
  obtain ⟨a, b, off, ho, _⟩ := h
  refine scalar_sub orig pw hsc fun c hc => ?_
  rw [ho] at hc
  exact mem_slice _ _ _ _ (mem_slice _ _ _ _ hc)

theorem tame_of_lowerOf (upper : Char → List Char) (U : UEnv) (pw orig word : CPs)
    (hsc : ScalarCPs pw) (hcase : CaseInvAll U upper pw) (hlen : word.length = orig.length)
    (h : LowerOf U pw orig word) : TamePair upper (isUp U) (toStr orig) (toStr word) := by
  have hso := lowerOf_scalar U pw orig word hsc h
  obtain ⟨a, b, off, ho, hw⟩ := h
  refine tame_of_pointwise upper (isUp U) orig word hlen.symm fun i c d h1 h2 => ?_
  rw [isUp_ofNat U c (hso c (List.mem_of_getElem? h1))]
  rw [ho] at h1
  rw [hw] at h2
  have h0 := hcase a b (off + i) c d (getElem?_slice _ _ _ _ _ h1) (getElem?_slice _ _ _ _ _ h2)
  split at h0
  · next hu => rw [if_pos hu]; exact h0
  · next hu => rw [if_neg hu, h0]

end Pcfg.ScoreB
