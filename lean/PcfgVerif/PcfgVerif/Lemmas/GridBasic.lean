import PcfgVerif.Model.GridSpec
import PcfgVerif.Lemmas.ListFacts
/-! Index vectors (`validIdx`, `allIdx`, `allNodes`; `inc` and `dec` are `List.modify`), read coordinate by
coordinate with `getD · 0`; `probFold` is monotone (`probFold_mono`) and commutes with what commutes with its product
(`probFold_map`). -/
namespace Pcfg
variable {P : Type}

theorem inc_eq_modify (i : List Nat) (k : Nat) : inc i k = i.modify k (· + 1) := by
  fun_induction inc i k <;> simp [*]

theorem dec_eq_modify (i : List Nat) (k : Nat) : dec i k = i.modify k (· - 1) := by
  fun_induction dec i k <;> simp [*]

@[simp] theorem length_inc (i : List Nat) (k : Nat) : (inc i k).length = i.length := by
  rw [inc_eq_modify, List.length_modify]

@[simp] theorem length_dec (i : List Nat) (k : Nat) : (dec i k).length = i.length := by
  rw [dec_eq_modify, List.length_modify]

theorem getD_modify (f : Nat → Nat) (i : List Nat) (k j : Nat) :
    (i.modify k f).getD j 0 = if j = k ∧ k < i.length then f (i.getD j 0) else i.getD j 0 := by
  simp only [List.getD_eq_getElem?_getD, List.getElem?_modify]
  by_cases hj : j < i.length
  · by_cases hk : k = j <;> simp [hj, hk, eq_comm]
  · have : ¬ (j = k ∧ k < i.length) := by omega
    simp [List.getElem?_eq_none (Nat.le_of_not_lt hj), this]

theorem getD_inc (i : List Nat) (k j : Nat) :
    (inc i k).getD j 0 = if j = k ∧ k < i.length then i.getD j 0 + 1 else i.getD j 0 := by
  rw [inc_eq_modify, getD_modify]

theorem getD_dec (i : List Nat) (k j : Nat) :
    (dec i k).getD j 0 = if j = k then i.getD j 0 - 1 else i.getD j 0 := by
  rw [dec_eq_modify, getD_modify]
  by_cases hk : k < i.length
  · simp [hk]
  · rw [if_neg (hk ·.2)]
    split
    · rw [List.getD_eq_default (by omega)]
    · rfl

theorem getD_pos_lt {i : List Nat} {k : Nat} (h : 0 < i.getD k 0) : k < i.length :=
  Nat.lt_of_not_le fun hl => by rw [List.getD_eq_default hl] at h; omega

theorem ext_getD {a b : List Nat} (hl : a.length = b.length)
    (h : ∀ j, a.getD j 0 = b.getD j 0) : a = b :=
  List.ext_getElem hl fun i h1 h2 => by
    simpa [h1, h2] using h i

theorem dec_inc (i : List Nat) (k : Nat) : dec (inc i k) k = i := by
  rw [inc_eq_modify, dec_eq_modify, List.modify_modify_eq]
  exact List.modify_id k i

theorem inc_dec (i : List Nat) (k : Nat) (h : 0 < i.getD k 0) : inc (dec i k) k = i := by
  apply ext_getD (by simp)
  intro j
  rw [getD_inc, getD_dec, length_dec]
  by_cases hj : j = k
  · subst hj; rw [if_pos ⟨rfl, getD_pos_lt h⟩, if_pos rfl]; omega
  · simp [hj]

theorem inc_eq_iff {x c : List Nat} {k : Nat} :
    k < x.length ∧ inc x k = c ↔ 0 < c.getD k 0 ∧ dec c k = x := by
  constructor
  · rintro ⟨hk, rfl⟩
    exact ⟨by rw [getD_inc, if_pos ⟨rfl, hk⟩]; exact Nat.succ_pos _, dec_inc x k⟩
  · rintro ⟨hk, rfl⟩; exact ⟨by rw [length_dec]; exact getD_pos_lt hk, inc_dec c k hk⟩

theorem sum_inc : ∀ (i : List Nat) (k : Nat), k < i.length → (inc i k).sum = i.sum + 1
  | a :: is, 0, _ => by rw [inc, List.sum_cons, List.sum_cons, Nat.add_right_comm]
  | a :: is, k + 1, h => by
    rw [inc, List.sum_cons, List.sum_cons, sum_inc is k (Nat.lt_of_succ_lt_succ h), Nat.add_assoc]

theorem sum_dec (i : List Nat) (k : Nat) (h : 0 < i.getD k 0) : (dec i k).sum + 1 = i.sum := by
  rw [← sum_inc (dec i k) k (by simpa using getD_pos_lt h), inc_dec i k h]

theorem inc_ne_self (i : List Nat) (k : Nat) (h : k < i.length) : inc i k ≠ i := by
  intro e
  have := sum_inc i k h
  rw [e] at this
  omega

theorem inc_inj_pos (i : List Nat) (k k' : Nat) (h : k < i.length) (e : inc i k = inc i k') :
    k = k' := by
  have h1 := getD_inc i k k
  rw [e, getD_inc] at h1
  by_cases hk : k = k'
  · exact hk
  · simp [hk, h] at h1

theorem sum_le_of_getD_le : ∀ {a b : List Nat}, (∀ j, a.getD j 0 ≤ b.getD j 0) → a.sum ≤ b.sum
  | [], _, _ => Nat.zero_le _
  | _ :: _, [], h => Nat.add_le_add (h 0) (sum_le_of_getD_le (b := []) fun j => h (j + 1))
  | _ :: _, _ :: _, h => Nat.add_le_add (h 0) (sum_le_of_getD_le fun j => h (j + 1))

theorem first_diff : ∀ (a b : List Nat), a.length = b.length → a ≠ b →
    ∃ pos, pos < a.length ∧ a.getD pos 0 ≠ b.getD pos 0 ∧ ∀ j, j < pos → a.getD j 0 = b.getD j 0
  | [], [], _, h => absurd rfl h
  | x :: a, y :: b, hl, hne => by
    by_cases hxy : x = y
    · subst hxy
      obtain ⟨pos, hp, hd, hj⟩ := first_diff a b (Nat.succ.inj hl) fun e => hne (e ▸ rfl)
      exact ⟨pos + 1, Nat.succ_lt_succ hp, hd, Nat.forall_lt_succ_left.mpr ⟨rfl, hj⟩⟩
    · exact ⟨0, Nat.succ_pos _, hxy, nofun⟩

theorem validIdx_iff : ∀ (cols : List (List P)) (i : List Nat),
    validIdx cols i = true ↔
      i.length = cols.length ∧ ∀ j, j < cols.length → i.getD j 0 < (cols.getD j []).length
  | [], [] => ⟨fun _ => ⟨rfl, nofun⟩, fun _ => rfl⟩
  | [], _ :: _ => ⟨nofun, fun h => nomatch h.1⟩
  | _ :: _, [] => ⟨nofun, fun h => nomatch h.1⟩
  | c :: cs, a :: is => by
    simp only [validIdx, Bool.and_eq_true, decide_eq_true_eq, validIdx_iff cs is, List.length_cons,
      Nat.add_right_cancel_iff, Nat.forall_lt_succ_left, List.getD_cons_zero, List.getD_cons_succ]
    exact and_left_comm

theorem validIdx_length {cols : List (List P)} {i : List Nat} (h : validIdx cols i = true) :
    i.length = cols.length := ((validIdx_iff cols i).mp h).1

theorem validIdx_getD {cols : List (List P)} {i : List Nat} (h : validIdx cols i = true) {j : Nat}
    (hj : j < i.length) : i.getD j 0 < (cols.getD j []).length :=
  ((validIdx_iff cols i).mp h).2 j (validIdx_length h ▸ hj)

theorem validIdx_dec {cols : List (List P)} {i : List Nat} (h : validIdx cols i = true) (k : Nat) :
    validIdx cols (dec i k) = true := by
  rw [validIdx_iff] at h ⊢
  refine ⟨by simpa using h.1, ?_⟩
  intro j hj
  have := h.2 j hj
  rw [getD_dec]
  split <;> omega

theorem validIdx_inc {cols : List (List P)} {i : List Nat} (h : validIdx cols i = true) (k : Nat)
    (hroom : i.getD k 0 + 1 < (cols.getD k []).length) : validIdx cols (inc i k) = true := by
  rw [validIdx_iff] at h ⊢
  refine ⟨by simpa using h.1, ?_⟩
  intro j hj
  have := h.2 j hj
  rw [getD_inc]
  split
  · rename_i hjk; rw [hjk.1]; exact hroom
  · exact this

theorem validIdx_sum_le : ∀ (cols : List (List P)) (i : List Nat), validIdx cols i = true →
    i.sum ≤ (cols.map List.length).sum
  | [], [], _ => Nat.le_refl _
  | c :: cs, a :: is, h => by
    rw [validIdx, Bool.and_eq_true, decide_eq_true_eq] at h
    exact Nat.add_le_add (Nat.le_of_lt h.1) (validIdx_sum_le cs is h.2)

/-! `allIdx`, `allNodes`, `restoreNodes` (and `initNodes`) all have the shape
`(List.range n).flatMap fun b => (f b).map (mk b)` with `mk` injective in both arguments. -/

theorem nodup_range_flatMap_map {β γ : Type} (mk : Nat → β → γ)
    (hmk : ∀ a b x y, mk a x = mk b y → a = b ∧ x = y) (n : Nat) (f : Nat → List β)
    (h : ∀ b, b < n → (f b).Nodup) : ((List.range n).flatMap fun b => (f b).map (mk b)).Nodup := by
  refine List.nodup_flatMap List.nodup_range
    (fun b hb => List.nodup_map_of_injective (fun _ _ e => (hmk _ _ _ _ e).2) (h b (List.mem_range.mp hb))) ?_
  intro a _ b _ hab y hy hy'
  obtain ⟨x', _, rfl⟩ := List.mem_map.mp hy
  obtain ⟨y', _, e⟩ := List.mem_map.mp hy'
  exact hab (hmk _ _ _ _ e).1.symm

theorem mem_perStruct (n : Nat) (f : Nat → List (List Nat)) (v : Node) :
    v ∈ (List.range n).flatMap (fun b => (f b).map fun i => (⟨b, i⟩ : Node)) ↔
      v.b < n ∧ v.idx ∈ f v.b := by
  simp only [List.mem_flatMap, List.mem_range, List.mem_map]
  constructor
  · rintro ⟨b, hb, i, hi, rfl⟩; exact ⟨hb, hi⟩
  · rintro ⟨hb, hi⟩; exact ⟨v.b, hb, v.idx, hi, rfl⟩

theorem nodup_perStruct (n : Nat) (f : Nat → List (List Nat)) (h : ∀ b, b < n → (f b).Nodup) :
    ((List.range n).flatMap fun b => (f b).map fun i => (⟨b, i⟩ : Node)).Nodup :=
  nodup_range_flatMap_map _ (fun _ _ _ _ e => by simpa using e) n f h

theorem mem_allIdx : ∀ (cols : List (List P)) (i : List Nat),
    i ∈ allIdx cols ↔ validIdx cols i = true
  | [], [] => by simp [allIdx, validIdx]
  | [], _ :: _ => by simp [allIdx, validIdx]
  | c :: cs, [] => by simp [allIdx, validIdx]
  | c :: cs, a :: is => by
    simp [allIdx, validIdx, mem_allIdx cs is]

theorem nodup_allIdx : ∀ (cols : List (List P)), (allIdx cols).Nodup
  | [] => by simp [allIdx]
  | c :: cs => nodup_range_flatMap_map _ (fun _ _ _ _ e => by simpa using e) _ _
      fun _ _ => nodup_allIdx cs

section
variable [Inhabited P]

/-- no range condition on `b`: past the end `g.struct b` has no columns -/
theorem WF.struct {O : POps P} {g : Grid P} (hwf : WF O g) (b : Nat) : WFStruct O (g.struct b) := by
  rw [Grid.struct, List.getD_eq_getElem?_getD]
  cases h : g[b]? with
  | none => exact fun _ hc => absurd hc List.not_mem_nil
  | some s => exact hwf s (List.mem_of_getElem? h)

theorem mem_allNodes (g : Grid P) (v : Node) : v ∈ allNodes g ↔ ValidNode g v := by
  rw [allNodes, mem_perStruct, mem_allIdx]; rfl

theorem nodup_allNodes (g : Grid P) : (allNodes g).Nodup :=
  nodup_perStruct _ _ fun _ _ => nodup_allIdx _

end

theorem col_mono (A : PAlg P) {c : List P} (hc : c.Pairwise (fun a b => A.le b a = true))
    {i i' : Nat} (hi : i < c.length) (hii : i' ≤ i) : A.le c[i] (c[i']'(by omega)) = true := by
  by_cases e : i' = i
  · subst e; exact A.le_refl _
  · exact List.pairwise_iff_getElem.mp hc i' i (by omega) hi (by omega)

theorem probFold_mono (A : PAlg P) {cols : List (List P)}
    (hwf : ∀ c ∈ cols, c.Pairwise (fun a b => A.le b a = true)) {acc acc' : P} {i i' : List Nat}
    (h : A.le acc acc' = true) (hv : validIdx cols i = true) (hv' : validIdx cols i' = true)
    (hle : ∀ j, i'.getD j 0 ≤ i.getD j 0) :
    A.le (probFold A.toPOps acc cols i) (probFold A.toPOps acc' cols i') = true := by
  induction cols generalizing acc acc' i i' with
  | nil =>
    cases i with
    | cons _ _ => cases hv
    | nil =>
    cases i' with
    | cons _ _ => cases hv'
    | nil => exact h
  | cons c cs ih =>
    cases i with
    | nil => cases hv
    | cons a is =>
    cases i' with
    | nil => cases hv'
    | cons a' is' =>
    rw [validIdx, Bool.and_eq_true, decide_eq_true_eq] at hv hv'
    rw [probFold, probFold, List.getElem?_eq_getElem hv.1, List.getElem?_eq_getElem hv'.1]
    exact ih (fun c' hc' => hwf c' (List.mem_cons_of_mem _ hc'))
      (A.le_trans _ _ _ (A.mul_mono_left _ _ _ h) (A.mul_mono_right _ _ _
        (col_mono A (hwf c List.mem_cons_self) hv.1 (hle 0))))
      hv.2 hv'.2 fun j => hle (j + 1)

theorem probFold_map (O : POps P) (f : P → P) (hf : ∀ a p, f (O.mul a p) = O.mul (f a) p)
    (acc : P) (cols : List (List P)) (idx : List Nat) :
    probFold O (f acc) cols idx = f (probFold O acc cols idx) := by
  -- the cases are the branches of `probFold`: a factor, an index out of range, a list exhausted
  fun_induction probFold O acc cols idx with
  | case1 acc c cs i is p h ih => simp only [probFold, h, ← hf, ih]
  | case2 acc c cs i is h ih => simp only [probFold, h, ih]
  | case3 cols acc idx h => rw [probFold]; exact h

theorem findProb_mono (A : PAlg P) {s : Struct P} (hs : WFStruct A.toPOps s) {i i' : List Nat}
    (hv : validIdx s.cols i = true) (hv' : validIdx s.cols i' = true)
    (hle : ∀ j, i'.getD j 0 ≤ i.getD j 0) :
    A.le (findProb A.toPOps s i) (findProb A.toPOps s i') = true :=
  probFold_mono A (fun c hc => (hs c hc).2) (A.le_refl _) hv hv' hle

theorem findProb_dec_ge (A : PAlg P) {s : Struct P} (hs : WFStruct A.toPOps s)
    {i : List Nat} (hv : validIdx s.cols i = true) (k : Nat) :
    A.le (findProb A.toPOps s i) (findProb A.toPOps s (dec i k)) = true :=
  findProb_mono A hs hv (validIdx_dec hv k) fun j => by rw [getD_dec]; split <;> omega

end Pcfg
