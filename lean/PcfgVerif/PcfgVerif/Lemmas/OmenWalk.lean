import PcfgVerif.Model.OmenSpec
import PcfgVerif.Lemmas.OmenList
/-!
# OMEN cursors: the (length, initial n-gram) cursor walks an explicit list

`posList sizes lo n` lists the positions `(level, index)` of `n` consecutive levels.  `advance` is the
successor function of such a list (`advance_succ`), and the two-dimensional step of `seek` is the
successor function of `Tables.cursors` (`step_walks`).  Validity, distinctness, coverage and the
bound on the number of cursors are then facts about that list.
-/
namespace Omen

def posList (sizes : Nat → Nat) (lo n : Nat) : List (Nat × Nat) :=
  (List.range' lo n).flatMap fun l => (List.range (sizes l)).map (l, ·)

theorem posList_succ (sizes : Nat → Nat) (lo n : Nat) :
    posList sizes lo (n + 1) = (List.range (sizes lo)).map (lo, ·) ++ posList sizes (lo + 1) n := by
  simp [posList, List.range'_succ]

theorem mem_posList {sizes : Nat → Nat} {lo n : Nat} {p : Nat × Nat} :
    p ∈ posList sizes lo n ↔ lo ≤ p.1 ∧ p.1 < lo + n ∧ p.2 < sizes p.1 := by
  simp only [posList, List.mem_flatMap, List.mem_range'_1, List.mem_map, List.mem_range]
  constructor
  · rintro ⟨l, ⟨h1, h2⟩, i, h3, rfl⟩; exact ⟨h1, h2, h3⟩
  · rintro ⟨h1, h2, h3⟩; exact ⟨p.1, ⟨h1, h2⟩, p.2, h3, rfl⟩

/-- the levels `lo … max lo B` -/
theorem mem_posList_upto {sizes : Nat → Nat} {lo B : Nat} {p : Nat × Nat} :
    p ∈ posList sizes lo (B - lo + 1) ↔ lo ≤ p.1 ∧ (p.1 ≤ B ∨ p.1 = lo) ∧ p.2 < sizes p.1 := by
  rw [mem_posList]; exact and_congr_right fun h => and_congr_left' (by omega)

theorem posList_eq_cons (sizes : Nat → Nat) (lo n : Nat) (h : 0 < sizes lo) :
    ∃ rest, posList sizes lo (n + 1) = (lo, 0) :: rest := by
  obtain ⟨k, hk⟩ := Nat.exists_eq_add_one_of_ne_zero (Nat.ne_of_gt h)
  exact ⟨_, by rw [posList_succ, hk, List.range_succ_eq_map]; rfl⟩

theorem nodup_posList (sizes : Nat → Nat) (lo n : Nat) : (posList sizes lo n).Nodup :=
  nodup_flatMap_map Prod.mk (fun _ _ _ _ e => Prod.mk.inj e) List.nodup_range' fun _ _ => List.nodup_range

/-- a table has as many positions as entries -/
theorem length_posList_table {α : Type} (tbl : List (List α)) :
    (posList (fun l => (tbl.getD l []).length) 0 tbl.length).length = (tbl.map List.length).sum := by
  rw [posList, List.length_flatMap, ← List.range_eq_range']
  simp only [List.length_map, List.length_range]
  exact List.sum_range_getElem? tbl fun o => (o.getD []).length

theorem range'_split {s n a : Nat} {l1 l2 : List Nat} (h : List.range' s n = l1 ++ a :: l2) :
    ∃ k, k < n ∧ a = s + k ∧ l2 = List.range' (a + 1) (n - (k + 1)) := by
  obtain ⟨k, _, rfl, e⟩ := List.range'_eq_append_iff.1 h
  obtain ⟨rfl, hpos, rfl⟩ := List.range'_eq_cons_iff.1 e.symm
  exact ⟨k, Nat.lt_of_sub_pos hpos, by rw [Nat.mul_one], by rw [Nat.sub_sub]⟩

/-- what follows `(l, i)` in `posList sizes lo n`: the rest of level `l`, then the levels left -/
theorem posList_split {sizes : Nat → Nat} {lo n : Nat} {pre suf : List (Nat × Nat)} {l i : Nat}
    (h : posList sizes lo n = pre ++ (l, i) :: suf) :
    ∃ k, k < n ∧ l = lo + k ∧
      suf = (List.range' (i + 1) (sizes l - (i + 1))).map (l, ·) ++ posList sizes (l + 1) (n - (k + 1)) := by
  obtain ⟨l1, a, l2, p, s, e1, e2, rfl⟩ := flatMap_split h
  obtain ⟨p', i', s', e3, e4, rfl⟩ := map_split e2
  obtain ⟨rfl, rfl⟩ := Prod.mk.inj e4
  obtain ⟨k, hk, hl, rfl⟩ := range'_split e1
  rw [List.range_eq_range'] at e3
  obtain ⟨j, _, hj, rfl⟩ := range'_split e3
  rw [Nat.zero_add] at hj
  subst hj
  exact ⟨k, hk, hl, rfl⟩

section
variable (sizes : Nat → Nat) (M : Nat) (bound : Int) {B : Nat} (hB : B = min M bound.toNat)
include hB

/-- the loop returns the first position there is in the rest of `level` and the levels up to `B`, the last level
within both bounds -/
theorem advance_eq (fuel level index : Nat) (hl : level ≤ M) (hf : M < level + fuel) :
    advance sizes M bound fuel level index =
      ((List.range' index (sizes level - index)).map (level, ·) ++ posList sizes (level + 1) (B - level)).head? := by
  -- the two tests that end the loop, in terms of `B`
  have hB' : ∀ level, B ≤ level ↔ level + 1 > M ∨ ((level + 1 : Nat) : Int) > bound := fun _ => by omega
  -- the cases are the branches of `advance` in order
  fun_induction advance sizes M bound fuel level index with
  | case1 => exact absurd hl (Nat.not_le_of_lt hf)
  | case2 fuel level index _ hs =>
    rw [List.head?_append, List.head?_map, List.head?_range', if_neg (Nat.sub_ne_zero_of_lt hs)]; rfl
  | case3 fuel level index _ hs h1 =>
    rw [Nat.sub_eq_zero_of_le (Nat.le_of_not_lt hs), Nat.sub_eq_zero_of_le ((hB' _).2 (Or.inl h1))]; rfl
  | case4 fuel level index _ hs _ h2 =>
    rw [Nat.sub_eq_zero_of_le (Nat.le_of_not_lt hs), Nat.sub_eq_zero_of_le ((hB' _).2 (Or.inr h2))]; rfl
  | case5 fuel level index _ hs h1 h2 ih =>
    rw [ih (Nat.le_of_not_lt h1) (by omega), Nat.sub_eq_zero_of_le (Nat.le_of_not_lt hs),
      ← Nat.sub_add_cancel (Nat.sub_pos_of_lt (Nat.lt_of_not_le fun h => ((hB' _).1 h).elim h1 h2)), posList_succ,
      List.range_eq_range']
    rfl
  | case6 _ _ _ h => exact absurd hl h

theorem advance_succ (lo fuel : Nat) (hlo : lo ≤ M) (hf : M + 1 < fuel) {pre suf : List (Nat × Nat)} {l i : Nat}
    (h : posList sizes lo (B - lo + 1) = pre ++ (l, i) :: suf) :
    advance sizes M bound fuel l (i + 1) = suf.head? := by
  obtain ⟨k, hk, rfl, rfl⟩ := posList_split h
  rw [advance_eq sizes M bound hB fuel (lo + k) (i + 1) (by omega) (Nat.lt_add_left _ (Nat.lt_of_succ_lt hf)),
    Nat.add_sub_add_right, Nat.sub_sub]

end

abbrev Tables.ipSize (t : Tables) (l : Nat) : Nat := (t.ipTbl.getD l []).length
abbrev Tables.lnSize (t : Tables) (l : Nat) : Nat := (t.lnTbl.getD l []).length

structure Cursor.Valid (t : Tables) (c : Cursor) : Prop where
  lenLvl : c.lenLvl ≤ t.m.maxLevel
  lenIdx : c.lenIdx < t.lnSize c.lenLvl
  ipLvl : c.ipLvl ≤ t.m.maxLevel
  ipIdx : c.ipIdx < t.ipSize c.ipLvl

def Tables.startIp (t : Tables) : Nat := (findFirst t.m.maxLevel t.ipTbl).getD 0

/-- what `seek` does with the cursor when the current (length, ip) is exhausted -/
def Tables.step (t : Tables) (target : Nat) (c : Cursor) : Option Cursor :=
  match t.increaseIp target c with
  | some c' => some c'
  | none => t.increaseLen target t.startIp c

/-- the initial n-grams tried for a length of level `a`: all of the first level, then the levels up
to `target - a` -/
def Tables.ipWalk (t : Tables) (target a : Nat) : List (Nat × Nat) :=
  posList t.ipSize t.startIp (min t.m.maxLevel (target - a) - t.startIp + 1)

/-- every cursor the generator goes through at level `target`, in order, when the first length
level is `sl` -/
def Tables.cursors (t : Tables) (target sl : Nat) : List Cursor :=
  (posList t.lnSize sl (min t.m.maxLevel target - sl + 1)).flatMap fun p =>
    (t.ipWalk target p.1).map fun q => ⟨p.1, p.2, q.1, q.2⟩

/-- the first non-empty ip level exists -/
structure Tables.StartOK (t : Tables) : Prop where
  le : t.startIp ≤ t.m.maxLevel
  pos : 0 < t.ipSize t.startIp
  below : ∀ k, k < t.startIp → t.ipSize k = 0

theorem ipWalk_eq_cons (t : Tables) (hst : t.StartOK) (target a : Nat) :
    ∃ rest, t.ipWalk target a = (t.startIp, 0) :: rest :=
  posList_eq_cons _ _ _ hst.pos

theorem cursors_eq_cons (t : Tables) (hst : t.StartOK) (target sl : Nat) (h : 0 < t.lnSize sl) :
    ∃ rest, t.cursors target sl = ⟨sl, 0, t.startIp, 0⟩ :: rest := by
  obtain ⟨P, hP⟩ := posList_eq_cons t.lnSize sl (min t.m.maxLevel target - sl) h
  obtain ⟨Q, hQ⟩ := ipWalk_eq_cons t hst target sl
  exact ⟨_, by rw [Tables.cursors, hP, List.flatMap_cons, hQ]; rfl⟩

theorem step_walks (t : Tables) (hst : t.StartOK) (target sl : Nat) (hsl : sl ≤ t.m.maxLevel) :
    Walks (t.step target) (t.cursors target sl) := by
  intro pre c suf h
  obtain ⟨P1, p, P2, Q1', Q2', hP, hQ', rfl⟩ := flatMap_split h
  obtain ⟨Q1, q, Q2, hQ, rfl, rfl⟩ := map_split hQ'
  -- `increaseIp` moves on within the ip walk `Q1 ++ q :: Q2` of the length position `p`
  rw [Tables.step, Tables.increaseIp, advance_succ _ _ _ (by rw [Int.toNat_sub]) _ _ hst.le (Nat.lt_succ_self _) hQ]
  cases Q2 with
  | cons q' Q2 => rfl
  | nil =>
    -- at its end `increaseLen` moves on within the length walk `P1 ++ p :: P2`, and the ip walk starts again
    show t.increaseLen target t.startIp _ = _
    rw [Tables.increaseLen, advance_succ _ _ _ (by rw [Int.toNat_natCast]) _ _ hsl (Nat.lt_succ_self _) hP]
    cases P2 with
    | nil => rfl
    | cons p' P2 =>
      obtain ⟨Q, hQ⟩ := ipWalk_eq_cons t hst target p'.1
      rw [List.flatMap_cons, hQ]; rfl

theorem cursors_valid (t : Tables) (hst : t.StartOK) (target sl : Nat) (hsl : sl ≤ t.m.maxLevel)
    (c : Cursor) (h : c ∈ t.cursors target sl) : c.Valid t := by
  obtain ⟨p, hp, hc⟩ := List.mem_flatMap.1 h
  obtain ⟨q, hq, rfl⟩ := List.mem_map.1 hc
  obtain ⟨_, h2, h3⟩ := mem_posList_upto.1 hp
  obtain ⟨_, h5, h6⟩ := mem_posList_upto.1 hq
  exact ⟨h2.elim (fun h => (Nat.le_min.1 h).1) (· ▸ hsl), h3,
    h5.elim (fun h => (Nat.le_min.1 h).1) (· ▸ hst.le), h6⟩

theorem cursors_cover (t : Tables) (hst : t.StartOK) (target sl : Nat)
    (hbelow : ∀ k, k < sl → t.lnSize k = 0) (x : Cursor) (hx : x.Valid t)
    (hrel : x.lenLvl + x.ipLvl ≤ target) : x ∈ t.cursors target sl :=
  List.mem_flatMap.2 ⟨(x.lenLvl, x.lenIdx),
    mem_posList_upto.2 ⟨Nat.le_of_not_lt fun h => Nat.ne_of_gt (Nat.zero_lt_of_lt hx.lenIdx) (hbelow _ h),
      Or.inl (Nat.le_min.2 ⟨hx.lenLvl, Nat.le_trans (Nat.le_add_right ..) hrel⟩), hx.lenIdx⟩,
    List.mem_map.2 ⟨(x.ipLvl, x.ipIdx),
      mem_posList_upto.2 ⟨Nat.le_of_not_lt fun h => Nat.ne_of_gt (Nat.zero_lt_of_lt hx.ipIdx) (hst.below _ h),
        Or.inl (Nat.le_min.2 ⟨hx.ipLvl, Nat.le_sub_of_add_le' hrel⟩), hx.ipIdx⟩, rfl⟩⟩

theorem cursors_nodup (t : Tables) (target sl : Nat) : (t.cursors target sl).Nodup :=
  nodup_flatMap_map (fun p q : Nat × Nat => (⟨p.1, p.2, q.1, q.2⟩ : Cursor))
    (fun _ _ _ _ e => by simpa [Prod.ext_iff, and_assoc] using e)
    (nodup_posList _ _ _) fun _ _ => nodup_posList _ _ _

/-- `seek` has fuel for all the cursors (`Tables.next` runs it with `pairCount`): they are distinct and valid, and
the tables have `Σ ip · Σ ln` valid cursors -/
theorem length_cursors_le (t : Tables) (hst : t.StartOK) (target sl : Nat) (hsl : sl ≤ t.m.maxLevel)
    (hip : t.ipTbl.length = t.m.maxLevel + 1) (hln : t.lnTbl.length = t.m.maxLevel + 1) :
    (t.cursors target sl).length < t.pairCount := by
  refine Nat.lt_succ_of_le (Nat.le_trans ((cursors_nodup t target sl).length_le_of_subset
    (l₂ := (posList t.ipSize 0 t.ipTbl.length).flatMap fun q =>
      (posList t.lnSize 0 t.lnTbl.length).map fun p => ⟨p.1, p.2, q.1, q.2⟩) fun c hc => ?_) ?_)
  · obtain ⟨v1, v2, v3, v4⟩ := cursors_valid t hst target sl hsl c hc
    exact List.mem_flatMap.2 ⟨(c.ipLvl, c.ipIdx), mem_posList.2 ⟨Nat.zero_le _, by omega, v4⟩,
      List.mem_map.2 ⟨(c.lenLvl, c.lenIdx), mem_posList.2 ⟨Nat.zero_le _, by omega, v2⟩, rfl⟩⟩
  · rw [List.length_flatMap]
    simp only [List.length_map, List.map_const', List.sum_replicate_nat, length_posList_table]
    exact Nat.mul_le_mul (Nat.le_succ _) (Nat.le_succ _)

end Omen
