import PcfgVerif.Lemmas.TrainedSections
import PcfgVerif.Lemmas.LoadBaseLemmas
/-!
# `Agree` for a trained ruleset

The scorer's lists (`scoreGOf`) and the guesser's view of the same counters (`viewOf`: columns = maximal runs of equal probability,
base structures tokenised by the guesser's own `splitStructure` with `insertCase` applied) agree: the terminal and the mask clause
come from the sections (`TrainedSections`), the base-structure clause from the tokeniser giving back the labels of a joined
structure string.
-/
namespace Pcfg.Trainer
open Pcfg.Detect

def strOf (v : CPs) : String := String.ofList (v.map Char.ofNat)

theorem strOf_map_toNat (cs : List Char) : strOf (cs.map Char.toNat) = String.ofList cs := by
  simp only [strOf, List.map_map, Function.comp_def, Char.ofNat_toNat, List.map_id']

theorem strOf_cps (l : String) : strOf (cpsOfString l) = l := by
  rw [cpsOfString, strOf_map_toNat, String.ofList_toList]

theorem insertCase_labels (labels : List String) :
    (insertCase (labels.map cpsOfString)).map strOf = labels.flatMap ScoreB.insC := by
  induction labels with
  | nil => rfl
  | cons l rest ih =>
    have hh : (cpsOfString l).head? = some 0x41 ↔ l.toList.head? = some 'A' := by
      rw [cpsOfString, List.head?_map]
      exact Option.map_inj_right (o' := some 'A') fun _ _ => Char.toNat_inj.mp
    rw [List.map_cons, insertCase_cons, List.flatMap_cons, ScoreB.insC_eq, ← ih]
    by_cases h : l.toList.head? = some 'A'
    · have hC : 0x43 :: (cpsOfString l).tail = ('C' :: l.toList.tail).map Char.toNat := by
        rw [cpsOfString, ← List.map_tail]; rfl
      rw [if_pos h, if_pos (hh.mpr h), List.map_cons, List.map_cons, strOf_cps, hC, strOf_map_toNat]
      rfl
    · rw [if_neg h, if_neg (mt hh.mp h), List.map_cons, strOf_cps]
      rfl

section
variable (isAlpha : Nat → Bool) (hcap : ∀ c, 65 ≤ c → c ≤ 90 → isAlpha c = true) (hdig : ∀ c, 48 ≤ c → c ≤ 57 → isAlpha c = false)
include hcap hdig

theorem tok_lbl (ch : Char) (n : Nat) (h : 65 ≤ ch.toNat ∧ ch.toNat ≤ 90) : Tok isAlpha (cpsOfString (lbl ch n)) := by
  refine ⟨ch.toNat, (toString n).toList.map Char.toNat, ?_, hcap _ h.1 h.2, ?_⟩
  · rw [cpsOfString, lbl_toList]; rfl
  · refine List.forall_mem_map.mpr fun x hx => ?_
    obtain ⟨a, b⟩ := Char.isDigit_iff_toNat.mp (isDigit_of_mem_toString n x hx)
    exact hdig _ a b

theorem tok_label (l : String) (h : ∃ text, LabelOK text l) : Tok isAlpha (cpsOfString l) := by
  obtain ⟨text, rfl | rfl | rfl | rfl | rfl | rfl | rfl | rfl⟩ := h
  · exact tok_lbl isAlpha hcap hdig 'K' _ (by decide)
  · exact lbl_Y1 ▸ tok_lbl isAlpha hcap hdig 'Y' 1 (by decide)
  · exact lbl_X1 ▸ tok_lbl isAlpha hcap hdig 'X' 1 (by decide)
  · exact tok_lbl isAlpha hcap hdig 'A' _ (by decide)
  · exact tok_lbl isAlpha hcap hdig 'D' _ (by decide)
  · exact tok_lbl isAlpha hcap hdig 'O' _ (by decide)
  · exact ⟨69, [], by decide, hcap _ (by decide) (by decide), List.forall_mem_nil _⟩
  · exact ⟨87, [], by decide, hcap _ (by decide) (by decide), List.forall_mem_nil _⟩

theorem split_labels (labels : List String) (h : ∀ l ∈ labels, ∃ text, LabelOK text l) :
    splitStructure isAlpha (cpsOfString (String.join labels)) [] = some (labels.map cpsOfString) := by
  have e : cpsOfString (String.join labels) = (labels.map cpsOfString).flatten := by
    unfold cpsOfString
    rw [String.toList_join, List.flatMap_def, List.map_flatten, List.map_map]
    rfl
  rw [e, split_tokens isAlpha _ (List.forall_mem_map.mpr fun l hl => tok_label isAlpha hcap hdig l (h l hl)) [], List.nil_append]

end

/-- the base structures the guesser loads: each line of `grammar.txt` tokenised, `C<n>` inserted after every `A<n>` -/
def viewBases (isAlpha : Nat → Bool) (cov : Rat) (n0 : Nat) (c : Counters) : List (List String × Rat) :=
  (baseList cov n0 c.base).filterMap fun kp =>
    (splitStructure isAlpha kp.1 []).map fun reps => ((insertCase reps).map strOf, kp.2)

def viewOf (isAlpha : Nat → Bool) (cov : Rat) (n0 : Nat) (c : Counters) : GView Rat where
  E := viewE c
  colP := viewP c
  bases := viewBases isAlpha cov n0 c

/-- **`Agree` is a theorem for a trained ruleset**: the scorer's lists (`scoreGOf`) and the guesser's view of the same counters
(`viewOf`: columns = maximal runs of equal probability, base structures tokenised with the case masks inserted) agree. -/
theorem trained_agree (isAlpha : Nat → Bool) (hcap : ∀ c, 65 ≤ c → c ≤ 90 → isAlpha c = true)
    (hdig : ∀ c, 48 ≤ c → c ≤ 57 → isAlpha c = false) (cov : Rat) (n0 : Nat) (c : Counters) (hok : LenOK c.masks) :
    Agree 0 (scoreGOf cov n0 c) (viewOf isAlpha cov n0 c) := by
  unfold viewOf
  constructor
  case term =>
    -- scorer and guesser read the same entry of the same section (`sel`); what the scorer finds there with a non-zero
    -- probability lies in the run of that probability
    intro l v hl
    obtain ⟨ch, n, rfl⟩ := termLabel_lbl hl
    rw [← scLbl, look_scoreGOf]
    cases hs : sel (cats c) ch n with
    | none => exact fun hne => absurd rfl hne
    | some e =>
      rw [Option.map_some, Option.getD_some]
      intro hne
      obtain ⟨j, vs, hj, hv⟩ := runs_mem (listOf e.2) v _ (mem_of_look (listOf e.2) v hne)
      refine ⟨j, vs.map toStr, ?_, List.mem_map.mpr ⟨v, hv, rfl⟩, ?_⟩
      · rw [values_viewE, hs, Option.bind_some, colOf, hj]; rfl
      · dsimp only  -- reduces the projection `colP` of the record, which `rw` does not look through
        rw [viewP_lbl, hs, Option.map_some, Option.getD_some, List.getElem?_map, colOf, hj]; rfl
  case base =>
    intro labels hlab hne
    rw [look_scoreGOf_B] at hne ⊢
    refine ⟨_, List.mem_filterMap.mpr ⟨_, mem_of_look (baseList cov n0 c.base) _ hne, ?_⟩, insertCase_labels labels⟩
    rw [split_labels isAlpha hcap hdig labels hlab]
    rfl
  case masks =>
    intro n j vals h m hm
    rw [values_viewE] at h
    obtain ⟨e, hf, h⟩ := Option.bind_eq_some_iff.mp h
    obtain ⟨g, hg, rfl⟩ := Option.map_eq_some_iff.mp h
    obtain ⟨v, hv, rfl⟩ := List.mem_map.mp hm
    obtain ⟨p, hp⟩ := runs_sub (listOf e.2) g (List.mem_of_getElem? hg) v hv
    obtain ⟨k, hkm⟩ := listOf_keys e.2 (v, p) hp
    have hk : e.1 = n := by simpa using List.find?_some hf
    rw [toStr_length, ← hk]
    exact hok e (List.mem_of_find?_eq_some hf) (v, k) hkm

/-- ... and the counters of a training run file every mask under its length -/
theorem train_agree (isAlpha : Nat → Bool) (hcap : ∀ c, 65 ≤ c → c ≤ 90 → isAlpha c = true)
    (hdig : ∀ c, 48 ≤ c → c ≤ 57 → isAlpha c = false) (U : UEnv) (cfg : MWCfg) (pws : List CPs) (cov : Rat) (n0 : Nat) :
    Agree 0 (scoreGOf cov n0 (train U cfg pws)) (viewOf isAlpha cov n0 (train U cfg pws)) :=
  trained_agree isAlpha hcap hdig cov n0 _ (train_lenok U cfg (·.masks) (·.masks) (fun _ _ => rfl) rfl pws)

end Pcfg.Trainer
