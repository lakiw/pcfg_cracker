import PcfgVerif.Model.Trainer
import PcfgVerif.Lemmas.DetectCounters
/-!
# The counters of a training run

Every counter of `train` in closed form (`train_field`): the fold of the counter's own increment over everything the parses of the
list's passwords file into it, in list order.  What holds of a run is then a fact about such a fold: counts are positive, a mask
filed under length n has n characters, there is one Counter per length, whatever a parse files is counted, and the PRINCE counter
is the tally of the section labels.
-/
namespace Pcfg.Trainer
open Pcfg.Detect

def LPos (d : LenCtr) : Prop := ∀ e ∈ d, CtrPos e.2

def LenOK (d : LenCtr) : Prop := ∀ e ∈ d, ∀ p ∈ e.2, p.1.length = e.1

theorem train_field {γ κ : Type} (π : Counters → γ) (g : γ → κ → γ) (items : Parsed → List κ)
    (h : ∀ c p, π (c.update p) = (items p).foldl g (π c)) (U : UEnv) (cfg : MWCfg) (pws : List CPs) :
    π (train U cfg pws) = (pws.flatMap fun pw => items (parse U cfg (pass1 U cfg pws) pw)).foldl g (π {}) := by
  rw [List.foldl_flatMap]
  exact (List.foldl_hom π fun c pw => (h c _).symm).symm

section
variable (U : UEnv) (cfg : MWCfg) (field : Counters → LenCtr) (items : Parsed → List CPs)
  (hf : ∀ c p, field (c.update p) = updateLenIndexed (field c) (items p)) (h0 : field {} = []) (pws : List CPs)
include hf h0

/-- the five length-indexed categories (`hf`, `h0` hold by `rfl`: they are lines of `Counters.update`) -/
theorem train_len :
    field (train U cfg pws) = updateLenIndexed [] (pws.flatMap fun pw => items (parse U cfg (pass1 U cfg pws) pw)) := by
  rw [train_field field LenCtr.add items hf, h0]; rfl

theorem train_lpos : LPos (field (train U cfg pws)) := by
  rw [train_len U cfg field items hf h0]
  exact fun e he => mem_update _ e he ▸ ctrPos_foldl _

theorem train_lenok : LenOK (field (train U cfg pws)) := by
  rw [train_len U cfg field items hf h0]
  intro e he p hp
  rw [mem_update _ e he] at hp
  exact (beq_iff_eq.mp (List.mem_filter.mp (keys_foldl_ctrInc _ p hp)).2).symm

theorem train_keys_nodup : ((field (train U cfg pws)).map (·.1)).Nodup := by
  rw [train_len U cfg field items hf h0]; exact update_keys_nodup [] _ List.nodup_nil

theorem train_len_indexed (n : Nat) (y : CPs) :
    ((field (train U cfg pws)).get n).count y =
      if y.length = n then (pws.flatMap fun pw => items (parse U cfg (pass1 U cfg pws) pw)).count y else 0 := by
  rw [train_len U cfg field items hf h0, update_count]
  exact Nat.zero_add _

theorem train_len_hit (pw : CPs) (h : pw ∈ pws) (v : CPs) (hv : v ∈ items (parse U cfg (pass1 U cfg pws) pw)) :
    0 < ((field (train U cfg pws)).get v.length).count v := by
  rw [train_len_indexed U cfg field items hf h0, if_pos rfl]
  exact List.count_pos_iff.mpr (List.mem_flatMap.mpr ⟨pw, h, hv⟩)

end

section
variable (U : UEnv) (cfg : MWCfg) (field : Counters → MWTable) (items : Parsed → List CPs)
  (hf : ∀ c p, field (c.update p) = incAll (field c) (items p)) (h0 : field {} = []) (pws : List CPs)
include hf h0

/-- the plain Counters (years, context strings, e-mails, …) -/
theorem train_plain :
    field (train U cfg pws) = (pws.flatMap fun pw => items (parse U cfg (pass1 U cfg pws) pw)).foldl ctrInc [] := by
  rw [train_field field ctrInc items hf, h0]

theorem train_plain_pos : CtrPos (field (train U cfg pws)) := by
  rw [train_plain U cfg field items hf h0]; exact ctrPos_foldl _

theorem train_plain_hit (pw : CPs) (h : pw ∈ pws) (v : CPs) (hv : v ∈ items (parse U cfg (pass1 U cfg pws) pw)) :
    0 < (field (train U cfg pws)).count v := by
  rw [train_plain U cfg field items hf h0]
  exact ctrGet_pos_of_mem _ _ v (List.mem_flatMap.mpr ⟨pw, h, hv⟩)

end

theorem train_base (U : UEnv) (cfg : MWCfg) (pws : List CPs) :
    (train U cfg pws).base = (pws.flatMap fun pw =>
      if (parse U cfg (pass1 U cfg pws) pw).supported then [(parse U cfg (pass1 U cfg pws) pw).structure'] else []).foldl ctrInc [] :=
  train_field (·.base) ctrInc (fun p => if p.supported then [p.structure'] else [])
    (fun c p => by show (if p.supported then c.base.inc p.structure' else c.base) = _; cases p.supported <;> rfl) U cfg pws

theorem train_base_pos (U : UEnv) (cfg : MWCfg) (pws : List CPs) : CtrPos (train U cfg pws).base := by
  rw [train_base]; exact ctrPos_foldl _

theorem train_base_hit (U : UEnv) (cfg : MWCfg) (pws : List CPs) (pw : CPs) (h : pw ∈ pws)
    (hs : (parse U cfg (pass1 U cfg pws) pw).supported = true) :
    ∃ n, ((parse U cfg (pass1 U cfg pws) pw).structure', n) ∈ (train U cfg pws).base := by
  apply mem_of_ctrGet_pos
  rw [train_base]
  exact ctrGet_pos_of_mem _ _ _ (List.mem_flatMap.mpr ⟨pw, h, by rw [if_pos hs]; exact List.mem_singleton_self _⟩)

theorem train_base_keys (U : UEnv) (cfg : MWCfg) (pws : List CPs) (p : String × Nat) (hp : p ∈ (train U cfg pws).base) :
    ∃ pw ∈ pws, p.1 = (parse U cfg (pass1 U cfg pws) pw).structure' := by
  rw [train_base] at hp
  obtain ⟨pw, hpw, h⟩ := List.mem_flatMap.mp (keys_foldl_ctrInc _ p hp)
  split at h
  · exact ⟨pw, hpw, List.mem_singleton.mp h⟩
  · cases h

/-- `counter[k]` (0 for a missing key) -/
def sget (c : SCtr) (k : String) : Nat :=
  match c.find? (·.1 == k) with
  | some e => e.2
  | none => 0

theorem sget_eq (c : SCtr) (k : String) : sget c k = ctrGet c k := by
  unfold sget ctrGet Omen.assocGet; cases c.find? (·.1 == k) <;> rfl

/-- the labels `prince_evaluation` counts for one parse: one per section -/
def _root_.Pcfg.Detect.Parsed.labels (p : Parsed) : List String := p.sections.map fun s => s.2.getD "None"

/-- **the PRINCE counter of a training run**: the count filed under a label is the number of sections carrying that label over
the parses of all passwords of the list - one count per section, also when a password holds the same text twice -/
theorem train_prince (U : UEnv) (cfg : MWCfg) (pws : List CPs) (l : String) :
    sget (train U cfg pws).prince l =
      (pws.map fun pw => (parse U cfg (pass1 U cfg pws) pw).labels.countP (· == l)).sum := by
  rw [train_field (·.prince) ctrInc (·.labels) (fun _ _ => (List.foldl_map ..).symm), sget_eq, ctrGet_foldl, List.countP_flatMap,
    Function.comp_def]
  -- without `comp_def` the unifier settles `f ∘ g` against `fun pw => f (g pw)` by unfolding `parse`
  exact Nat.zero_add _

end Pcfg.Trainer
