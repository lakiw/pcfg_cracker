import PcfgVerif.Model.OmenText
import PcfgVerif.Lemmas.LoaderLemmas
/-!
# The text of an OMEN level file, and of `Omen/alphabet.txt`, reads back as what was written
-/
namespace Pcfg

-- In the inductions on `digitsOf` the cases are its branches in order: one digit, the numeral of `n / 10` and one digit.

theorem digitsOf_ne_nil (n : Nat) : digitsOf n ≠ [] := by
  fun_cases digitsOf n
  · exact List.cons_ne_nil _ _
  · exact List.append_ne_nil_of_right_ne_nil _ (List.cons_ne_nil _ _)

/-- every character of a numeral is one of the ten ASCII digits -/
theorem digitsOf_forall {P : Nat → Prop} (h : ∀ d < 10, P (48 + d)) (n : Nat) : ∀ c ∈ digitsOf n, P c := by
  fun_induction digitsOf n with
  | case1 n hn => exact List.forall_mem_singleton.mpr (h n hn)
  | case2 n _ ih => exact List.forall_mem_append.mpr ⟨ih, List.forall_mem_singleton.mpr (h _ (Nat.mod_lt n (by decide)))⟩

theorem digitsOf_clean (n : Nat) : ∀ c ∈ digitsOf n, isLineSep c = false ∧ c ≠ 9 :=
  digitsOf_forall (by decide +kernel) n

theorem digitStep_digit (a d : Nat) (h : d < 10) : digitStep (some a) (48 + d) = some (a * 10 + d) := by
  rw [digitStep, Option.bind_some, if_pos ⟨Nat.le_add_right 48 d, Nat.add_le_add_left (Nat.le_of_lt_succ h) 48⟩,
    Nat.add_sub_cancel_left]

theorem foldl_digitStep_digitsOf (n : Nat) : (digitsOf n).foldl digitStep (some 0) = some n := by
  fun_induction digitsOf n with
  | case1 n h => rw [List.foldl_cons, List.foldl_nil, digitStep_digit 0 n h, Nat.zero_mul, Nat.zero_add]
  | case2 n _ ih =>
    rw [List.foldl_append, ih, List.foldl_cons, List.foldl_nil, digitStep_digit _ _ (Nat.mod_lt n (by decide)),
      Nat.div_add_mod']

theorem parseDigits_digitsOf (n : Nat) : parseDigits (digitsOf n) = some n := by
  rw [parseDigits, if_neg (digitsOf_ne_nil n), foldl_digitStep_digitsOf]

/-- `rstrip('\n\r')` of a line takes the LF it ends in and stops at the character before, the last of `y` -/
theorem rstripChars_lf (x y : CPs) (hy : y ≠ []) (h : ∀ c ∈ y, c ≠ 10 ∧ c ≠ 13) :
    rstripChars [10, 13] (x ++ y ++ [10]) = x ++ y :=
  rstripChars_append [10, 13] (x ++ y) [10] (by decide) <|
    forall_getLast?_append x hy fun c hc => by simp [(h c hc).1, (h c hc).2]

theorem rstripChars_writeLine (v p : CPs) (hp : ∀ c ∈ p, c ≠ 10 ∧ c ≠ 13) :
    rstripChars [10, 13] (writeLine v p) = v ++ 9 :: p := by
  rw [writeLine_eq]
  exact rstripChars_lf v (9 :: p) (List.cons_ne_nil 9 p) (List.forall_mem_cons.mpr ⟨by decide, hp⟩)

theorem parseOmenLine_writeLine (n : Nat) (g : CPs) (hg : ∀ c ∈ g, isLineSep c = false ∧ c ≠ 9) :
    parseOmenLine (writeLine (digitsOf n) g) = some (n, g) := by
  rw [parseOmenLine, rstripChars_writeLine _ _ fun c hc => ne_lf_cr_of_not_lineSep (hg c hc).1, pySplit,
    splitOnCp_field 9 (digitsOf n) g [] fun c hc => (digitsOf_clean n c hc).2,
    splitOnCp_no_sep 9 g [] fun c hc => (hg c hc).2]
  simp [parseDigits_digitsOf]

/-- **an OMEN level file reads back as the records written**, for every list of records whose n-grams contain neither a
line boundary nor a TAB (what `check_valid` guarantees of training passwords) -/
theorem loadOmenText_omenFileText (records : List (Nat × CPs))
    (h : ∀ r ∈ records, ∀ c ∈ r.2, isLineSep c = false ∧ c ≠ 9) :
    loadOmenText (omenFileText records) = some records := by
  rw [loadOmenText, omenFileText, codecLines_writeFile', List.map_map]
  · induction records with
    | nil => rfl
    | cons r rs ih =>
      obtain ⟨hr, hrs⟩ := List.forall_mem_cons.mp h
      rw [List.map_cons, List.mapM_cons, Function.comp, parseOmenLine_writeLine r.1 r.2 hr, ih hrs]
      rfl
  · exact List.forall_mem_map.mpr fun r hr => ⟨fun c hc => (digitsOf_clean r.1 c hc).1, fun c hc => (h r hr c hc).1⟩

end Pcfg

namespace Omen
open Pcfg

theorem codecLines_alphabetText (letters : CPs) (h : ∀ c ∈ letters, isLineSep c = false) :
    codecLines (alphabetText letters) = letters.map fun c => [c, 10] := by
  rw [alphabetText, List.flatMap_def]
  exact splitLinesKeep_flatten isLineSep isLineSep_10 _
    (List.forall_mem_map.mpr fun c hc => ⟨[c], rfl, List.forall_mem_singleton.mpr (h c hc)⟩)

/-- **`alphabet.txt` reads back as the alphabet written**, letter by letter - blanks, U+00A0, U+3000 included (only CR / LF are
stripped, and no accepted password contains those) -/
theorem loadAlphabet_alphabetText (letters : CPs) (h : ∀ c ∈ letters, isLineSep c = false) :
    loadAlphabet (alphabetText letters) = letters.map fun c => [c] := by
  rw [loadAlphabet, codecLines_alphabetText letters h, List.map_map]
  exact List.map_congr_left fun c hc =>
    rstripChars_lf [] [c] (List.cons_ne_nil c []) (List.forall_mem_singleton.mpr (ne_lf_cr_of_not_lineSep (h c hc)))

end Omen
