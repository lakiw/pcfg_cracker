import PcfgVerif.Lemmas.ExpandLemmas
import PcfgVerif.Model.Sampler
/-! `pick` is a search for the first running sum of the weights that reaches the draw (`pickGo_eq`); with natural
weights and the draws on a grid, the draws that fall between two prefix sums are counted by `count_range`.  One walk
of the honeyword loop under a limit (`honeyLoop_succ_limit`). -/
namespace Pcfg
variable {Q : Type}

/-- the tail of the scan: the running sums after 1, 2, … weights -/
theorem pickGo_eq (S : SOps Q) (u : Q) (ws : List Q) (cur : Q) (i : Nat) :
    pickGo S u ws cur i = ((List.scanl S.add cur ws).tail.findIdx? (S.ge · u)).map (· + i) := by
  induction ws generalizing cur i with
  | nil => rfl
  | cons w ws ih =>
    have e : List.scanl S.add (S.add cur w) ws = S.add cur w :: (List.scanl S.add (S.add cur w) ws).tail := by
      cases ws <;> simp
    rw [pickGo, List.scanl_cons, List.tail_cons, e, List.findIdx?_cons, ih]
    split
    · simp
    · simp [Function.comp_def, Nat.add_assoc, Nat.add_comm 1]

theorem sum_le_of_prefix {l₁ l₂ : List Nat} (h : l₁ <+: l₂) : l₁.sum ≤ l₂.sum := by
  obtain ⟨t, rfl⟩ := h
  rw [List.sum_append_nat]
  exact Nat.le_add_right _ _

theorem count_range (T a b : Nat) (hab : a ≤ b) (hb : b ≤ T) :
    ((List.range T).filter (fun k => decide (a ≤ k ∧ k < b))).length = b - a := by
  obtain ⟨d, rfl⟩ := Nat.exists_eq_add_of_le hab
  obtain ⟨e, rfl⟩ := Nat.exists_eq_add_of_le hb
  -- of the first `a` points none is counted, of the next `d` all, of the last `e` none
  rw [← List.countP_eq_length_filter, List.range_add, List.range_add, List.countP_append, List.countP_append,
    List.countP_map, List.countP_map, List.countP_eq_zero.mpr, List.countP_eq_length.mpr, List.countP_eq_zero.mpr]
  · simp
  all_goals
    intro k hk
    have := List.mem_range.mp hk
    simp only [Function.comp_apply, decide_eq_true_eq]
    omega

theorem honeyLoop_succ_limit (word : Nat → Option Str) (fuel seed n : Nat) (hn : 1 ≤ n) :
    honeyLoop word (fuel + 1) seed (some (n : Int)) =
      match word seed with
      | none => honeyLoop word fuel (seed + 1) (some (n : Int))
      | some w => w :: if n ≤ 1 then [] else honeyLoop word fuel (seed + 1) (some ((n - 1 : Nat) : Int)) := by
  have hit : HitZero Generated.Expand.honeyHit := hitZero_le
  have h0 : Generated.Expand.honeyHit (n : Int) = decide (n ≤ 0) := (hit.after n 0).2
  have e : (n : Int) - 1 = ((n - 1 : Nat) : Int) := (Int.ofNat_sub hn).symm
  rw [honeyLoop]
  cases word seed with
  | none =>
    simp only [limTruthy_pos n hn, Option.getD_some, h0, decide_eq_false (Nat.not_le.mpr hn)]
    rfl
  | some w =>
    simp only [limTruthy_pos n hn, if_true, Option.getD_some, e, (hit.after n 1).2, decide_eq_true_eq]
    split <;> rfl

end Pcfg
