import PcfgVerif.Model.OmenProb
import PcfgVerif.Lemmas.ListFacts
/-!
# The third pass and the saved level probabilities (C18, second half)

The third pass tallies the levels in a counter that is read through `ctrGet` (`ctrGet_levelsCount`);
`calc_omen_keyspace` lists consecutive levels with their keyspace (`calcKeyspace_spec`); the loop that fills
`pcfg_omen_prob` keeps the levels with a non-zero keyspace (`omenProbs_eq`).  Hence what a saved probability is
(`saved_probability_of`) and the bound on their mass (`mass_le_one`).
-/
namespace Omen
open Pcfg

theorem ctrGet_cons (e : Option Nat × Nat) (r : LCtr) (k : Option Nat) :
    ctrGet (e :: r) k = if e.1 == k then e.2 else ctrGet r k := by
  unfold ctrGet
  rw [List.find?_cons]
  cases e.1 == k <;> rfl

/-- `bump` counts under the first entry with the key, which is the entry `ctrGet` reads.  The cases are the branches of
`bump`: the empty counter, the key at the head, the key further on. -/
theorem ctrGet_bump (k k' : Option Nat) (c : LCtr) :
    ctrGet (bump k c) k' = ctrGet c k' + (if k == k' then 1 else 0) := by
  fun_induction bump k c with
  | case1 => rw [ctrGet_cons]; cases k == k' <;> rfl
  | case2 k₁ n r h => rw [ctrGet_cons, ctrGet_cons, beq_iff_eq.1 h]; cases k == k' <;> rfl
  | case3 k₁ n r h ih =>
    rw [ctrGet_cons, ctrGet_cons, ih]
    by_cases hk : k = k'
    · rw [← hk, if_neg h, if_neg h]
    · rw [if_neg (mt beq_iff_eq.1 hk)]; cases k₁ == k' <;> rfl

theorem bump_total (k : Option Nat) (c : LCtr) : ((bump k c).map (·.2)).sum = (c.map (·.2)).sum + 1 := by
  fun_induction bump k c with
  | case1 => rfl
  | case2 k₁ n r h => exact Nat.add_right_comm ..
  | case3 k₁ n r h ih => rw [List.map_cons, List.sum_cons, ih]; exact (Nat.add_assoc ..).symm

/-- the tally of the third pass: the count filed under a level is the number of passwords of the list that
`find_omen_level` puts there (and the count under −1 the number it cannot place) -/
theorem ctrGet_levelsCount (t : TTables) (pws : List Str) (k : Option Nat) :
    ctrGet (t.levelsCount pws) k = pws.countP (fun pw => t.trainerLevel pw == k) := by
  have h : ∀ c : LCtr, ctrGet (pws.foldl (fun c pw => bump (t.trainerLevel pw) c) c) k =
      ctrGet c k + pws.countP (fun pw => t.trainerLevel pw == k) := by
    induction pws with
    | nil => simp
    | cons pw r ih => intro c; rw [List.foldl_cons, ih, ctrGet_bump, List.countP_cons]; omega
  exact (h []).trans (Nat.zero_add _)

/-- `calc_omen_keyspace`: every level it lists carries `levelKeyspace` of that level, levels are
consecutive from the first, and it stops after the first level above the limit -/
theorem calcKeyspace_spec (t : TTables) (maxKeyspace fuel first : Nat) :
    (∀ p ∈ t.calcKeyspace maxKeyspace fuel first, p.2 = t.levelKeyspace p.1) ∧
    (t.calcKeyspace maxKeyspace fuel first).map (·.1) = List.range' first (t.calcKeyspace maxKeyspace fuel first).length ∧
    (∀ (i : Nat) p, (t.calcKeyspace maxKeyspace fuel first)[i]? = some p →
      i + 1 < (t.calcKeyspace maxKeyspace fuel first).length → p.2 ≤ maxKeyspace) := by
  -- no fuel; the level above the limit, listed last; a level within the limit
  fun_induction TTables.calcKeyspace t maxKeyspace fuel first with
  | case1 => exact ⟨nofun, rfl, nofun⟩
  | case2 fuel first k hk =>
    exact ⟨List.forall_mem_singleton.2 rfl, rfl, fun i p _ hi => absurd (Nat.lt_of_succ_lt_succ hi) (Nat.not_lt_zero _)⟩
  | case3 fuel first k hk ih =>
    obtain ⟨h1, h2, h3⟩ := ih
    refine ⟨List.forall_mem_cons.2 ⟨rfl, h1⟩, congrArg (first :: ·) h2, fun i p hp hi => ?_⟩
    cases i with
    | zero => cases hp; exact Nat.le_of_not_gt hk
    | succ j => exact h3 j p hp (Nat.lt_of_succ_lt_succ hi)

theorem omenProbs_eq {Q : Type} (O : NOps Q) (ks : List (Nat × Nat)) (c : LCtr) (n : Nat) :
    omenProbs O ks c n =
      (ks.filter (!·.2 == 0)).map fun lk => (lk.1, O.divNat (O.ratio (ctrGet c (some lk.1)) n) lk.2) :=
  List.filterMap_ite_none ..

theorem omenProbs_mem {Q : Type} (O : NOps Q) (ks : List (Nat × Nat)) (c : LCtr) (n : Nat) (level : Nat) (p : Q) :
    (level, p) ∈ omenProbs O ks c n ↔
      ∃ k, (level, k) ∈ ks ∧ k ≠ 0 ∧ p = O.divNat (O.ratio (ctrGet c (some level)) n) k := by
  simp only [omenProbs_eq, List.mem_map, List.mem_filter, Bool.not_eq_true', beq_eq_false_iff_ne, Prod.mk.injEq,
    Prod.exists]
  constructor
  · rintro ⟨l, k, ⟨hmem, hk⟩, rfl, rfl⟩; exact ⟨k, hmem, hk, rfl⟩
  · rintro ⟨k, hmem, hk, rfl⟩; exact ⟨level, k, ⟨hmem, hk⟩, rfl, rfl⟩

theorem omenProbs_pos (ks : List (Nat × Nat)) (c : LCtr) (n level k : Nat) (hk : (level, k) ∈ ks) (hk0 : 0 < k)
    (hc : 0 < ctrGet c (some level)) (hn : 0 < n) :
    ∃ p : Rat, (level, p) ∈ omenProbs ratNOps ks c n ∧ 0 < p := by
  refine ⟨_, (omenProbs_mem ratNOps ks c n level _).2 ⟨k, hk, Nat.ne_of_gt hk0, rfl⟩, ?_⟩
  show (0 : Rat) < (ctrGet c (some level) : Nat) / (n : Nat) / (k : Nat)
  rw [Rat.div_def, Rat.div_def]
  exact Rat.mul_pos (Rat.mul_pos (Rat.natCast_pos.2 hc) (Rat.inv_pos.2 (Rat.natCast_pos.2 hn)))
    (Rat.inv_pos.2 (Rat.natCast_pos.2 hk0))

theorem omenProbs_levels_sublist {Q : Type} (O : NOps Q) (ks : List (Nat × Nat)) (c : LCtr) (n : Nat) :
    ((omenProbs O ks c n).map (·.1)).Sublist (ks.map (·.1)) := by
  rw [omenProbs_eq, List.map_map]
  exact List.filter_sublist.map _

/-- the arithmetic of one line `(level, p)` of `pcfg_omen_prob`, for a list `E` with the properties
`emitted_spec` gives of what the generator emits at that level -/
theorem saved_probability_of (t : TTables) (level : Nat) (E : List Str)
    (hmem : ∀ s, s ∈ E ↔ t.trainerLevel s = some level) (hlen : E.length = t.levelKeyspace level)
    (pws : List Str) (maxKeyspace fuel first : Nat) (p : Rat)
    (h : (level, p) ∈ omenProbs ratNOps (t.calcKeyspace maxKeyspace fuel first) (t.levelsCount pws) pws.length) :
    E.length ≠ 0 ∧
      p = ((pws.countP (fun pw => decide (pw ∈ E)) : Nat) : Rat) / (pws.length : Rat) / (E.length : Rat) := by
  obtain ⟨k, hk, hk0, rfl⟩ := (omenProbs_mem ratNOps _ _ _ level p).1 h
  rw [hlen, ← (calcKeyspace_spec t maxKeyspace fuel first).1 (level, k) hk, ctrGet_levelsCount,
    List.countP_congr fun pw _ => beq_iff_eq.trans ((hmem pw).symm.trans decide_eq_true_iff.symm)]
  exact ⟨hk0, rfl⟩

/-- over distinct levels the per-level tallies add up to at most the length of the list: a password adds to one
tally at most -/
theorem sum_counts_le (f : Str → Option Nat) (Ls : List Nat) (hnd : Ls.Nodup) (pws : List Str) :
    (Ls.map fun l => pws.countP (fun pw => f pw == some l)).sum ≤ pws.length := by
  induction pws with
  | nil => simp
  | cons pw r ih =>
    simp only [List.countP_cons, List.sum_map_add', List.length_cons]
    refine Nat.add_le_add ih ?_
    cases f pw with
    | none => simp
    | some a =>
      simp only [Option.some_beq_some, beq_iff_eq, List.sum_indicator Ls hnd]
      split
      · exact Nat.le_refl 1
      · exact Nat.zero_le 1

theorem sum_natCast {α : Type} (l : List α) (f : α → Nat) :
    (l.map fun a => ((f a : Nat) : Rat)).sum = (((l.map f).sum : Nat) : Rat) := by
  induction l with
  | nil => rfl
  | cons a r ih => rw [List.map_cons, List.sum_cons, ih, List.map_cons, List.sum_cons, Rat.natCast_add]

theorem natCast_div_le_one (a n : Nat) (h : a ≤ n) (hn : 0 < n) : ((a : Nat) : Rat) / (n : Rat) ≤ 1 := by
  rw [← Rat.not_lt, Rat.lt_div_iff (Rat.natCast_pos.2 hn), Rat.one_mul, Rat.natCast_lt_natCast]
  exact Nat.not_lt.2 h

/-- `Σ p·keyspace` over the lines of `pcfg_omen_prob`, for any keyspace list with distinct levels: a term is the
share `tally / N` of its level, and the tallies of distinct levels add up to at most `N` -/
theorem mass_le_one (t : TTables) (pws : List Str) (hne : pws ≠ []) (ks : List (Nat × Nat))
    (hnd : (ks.map (·.1)).Nodup) :
    (ks.filterMap fun lk => if lk.2 == 0 then none
      else some (ratNOps.divNat (ratNOps.ratio (ctrGet (t.levelsCount pws) (some lk.1)) pws.length) lk.2 * (lk.2 : Rat))).sum ≤ 1 := by
  rw [List.filterMap_ite_none, List.map_congr_left
    (g := fun lk => ((pws.countP fun pw => t.trainerLevel pw == some lk.1 : Nat) : Rat) * (pws.length : Rat)⁻¹) fun lk h => by
      rw [← ctrGet_levelsCount, ← Rat.div_def]
      exact Rat.div_mul_cancel fun e => by simp [Rat.natCast_eq_zero_iff.1 e] at h]
  rw [List.sum_map_mul_right, sum_natCast, ← Rat.div_def]
  refine natCast_div_le_one _ _ ?_ (List.length_pos_iff.2 hne)
  have := sum_counts_le t.trainerLevel ((ks.filter (!·.2 == 0)).map (·.1)) (hnd.sublist (List.filter_sublist.map _)) pws
  rwa [List.map_map] at this

theorem keyspaceFile_perm (ks : List (Nat × Nat)) : (keyspaceFile ks).Perm ks := by
  unfold keyspaceFile
  exact (List.reverse_perm _).trans (List.mergeSort_perm ks _)

/-- every level that receives a probability (hence every level the guesser can be inside) has its line in the keyspace file -/
theorem prob_level_in_keyspaceFile {Q : Type} (O : NOps Q) (ks : List (Nat × Nat)) (c : LCtr) (n : Nat) (level : Nat) (p : Q)
    (h : (level, p) ∈ omenProbs O ks c n) : ∃ k, (level, k) ∈ keyspaceFile ks := by
  obtain ⟨k, hk, _, _⟩ := (omenProbs_mem O ks c n level p).1 h
  exact ⟨k, (keyspaceFile_perm ks).mem_iff.mpr hk⟩

end Omen
