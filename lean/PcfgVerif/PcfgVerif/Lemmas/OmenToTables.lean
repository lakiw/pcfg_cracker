import PcfgVerif.Lemmas.OmenStrings
import PcfgVerif.Lemmas.OmenTables
/-!
# OMEN trainer: `toTables` is well-formed, and answers every look-up from the trainer's entries

`toTables` regroups each entry's `next` dict by level (`TEntry.byLevel`) and drops what comes out empty.
Since every key and every level is listed once (`toTables_WF`), a look-up in it finds whatever is a
member, and membership is read off the definition: no look-up has to be followed through the filters.
-/
namespace Omen

theorem entry_some {t : TTables} {k : Str} {e : TEntry} (h : t.entry k = some e) :
    e ∈ t.entries ∧ e.key = k := by
  unfold TTables.entry at h
  exact ⟨List.mem_of_find?_eq_some h, by simpa using List.find?_some h⟩

theorem entry_of_mem {t : TTables} (hk : (t.entries.map (·.key)).Nodup) {e : TEntry}
    (he : e ∈ t.entries) : t.entry e.key = some e := by
  unfold TTables.entry
  apply List.find?_unique he (by simp)
  intro y hy hyk
  exact List.eq_of_nodup_map hk hy he (by simpa using hyk)

theorem TEntry.letter_eq_some_iff {e : TEntry} (hn : (e.next.map (·.1)).Nodup) {c : Char} {l : Nat} :
    e.letter c = some l ↔ (c, l) ∈ e.next :=
  assocGet_eq_some_iff hn

/-- items with distinct names `g x`, grouped by a level `f x`: the rows of names are duplicate-free and
disjoint (the `ip` table groups the keys, a `cp` entry groups the letters of one key) -/
theorem nodup_flatMap_filter_map {α β : Type} {xs : List α} {g : α → β} (f : α → Nat) (hg : (xs.map g).Nodup)
    {ls : List Nat} (hl : ls.Nodup) : (ls.flatMap fun l => (xs.filter (f · == l)).map g).Nodup := by
  refine List.nodup_flatMap hl (fun l _ => hg.sublist (List.filter_sublist.map _)) fun a _ b _ hab y hy hy' => ?_
  simp only [List.mem_map, List.mem_filter, beq_iff_eq] at hy hy'
  obtain ⟨x, ⟨hx, rfl⟩, rfl⟩ := hy
  obtain ⟨x', ⟨hx', rfl⟩, e⟩ := hy'
  exact hab (congrArg f (List.eq_of_nodup_map hg hx hx' e.symm))

/-- the letters `e` lists at level `l`, in the order of its `next_letter` dict -/
def TEntry.charsAt (e : TEntry) (l : Nat) : List Char := (e.next.filter (·.2 == l)).map (·.1)

theorem TEntry.mem_charsAt {e : TEntry} {l : Nat} {c : Char} : c ∈ e.charsAt l ↔ (c, l) ∈ e.next := by
  simp only [TEntry.charsAt, List.mem_map, List.mem_filter, beq_iff_eq, Prod.exists, exists_and_right,
    exists_eq_right]

/-- the non-empty level groups of `e`, levels ascending: the value `toTables` stores under `e.key` -/
def TEntry.byLevel (e : TEntry) (M : Nat) : List (Nat × List Char) :=
  (List.range (M + 1)).filterMap fun l => if (e.charsAt l).isEmpty then none else some (l, e.charsAt l)

theorem toTables_cp (t : TTables) : t.toTables.m.cp = t.entries.filterMap fun e =>
    if (e.byLevel t.maxLevel).isEmpty then none else some (e.key, e.byLevel t.maxLevel) := rfl

theorem TEntry.mem_byLevel {e : TEntry} {M l : Nat} {cs : List Char} :
    (l, cs) ∈ e.byLevel M ↔ l ≤ M ∧ e.charsAt l ≠ [] ∧ e.charsAt l = cs := by
  simp only [TEntry.byLevel, List.mem_filterMap, List.mem_range, Nat.lt_add_one_iff, Option.ite_none_left_eq_some,
    Option.some.injEq, Prod.mk.injEq, List.isEmpty_iff]
  constructor
  · rintro ⟨_, hl, hne, rfl, hcs⟩; exact ⟨hl, hne, hcs⟩
  · rintro ⟨hl, hne, hcs⟩; exact ⟨l, hl, hne, rfl, hcs⟩

theorem TEntry.byLevel_levels (e : TEntry) (M : Nat) : ((e.byLevel M).map (·.1)).Nodup := by
  rw [TEntry.byLevel, List.filterMap_ite_none, List.map_map]
  exact List.nodup_map_of_injective (fun _ _ h => h) (List.nodup_range.sublist List.filter_sublist)

theorem TEntry.byLevel_chars (e : TEntry) (M : Nat) (hn : (e.next.map (·.1)).Nodup) :
    ((e.byLevel M).flatMap (·.2)).Nodup := by
  rw [TEntry.byLevel, List.filterMap_ite_none, List.flatMap_map]
  exact nodup_flatMap_filter_map _ hn (List.nodup_range.sublist List.filter_sublist)

theorem mem_toTables_cp (t : TTables) (k : Str) (v : List (Nat × List Char)) :
    (k, v) ∈ t.toTables.m.cp ↔
      ∃ e ∈ t.entries, e.byLevel t.maxLevel ≠ [] ∧ e.key = k ∧ e.byLevel t.maxLevel = v := by
  simp only [toTables_cp, List.mem_filterMap, Option.ite_none_left_eq_some, Option.some.injEq,
    Prod.mk.injEq, List.isEmpty_iff, ne_eq]

theorem forall_mem_toTables_cp (t : TTables) {P : Str × List (Nat × List Char) → Prop}
    (h : ∀ e ∈ t.entries, P (e.key, e.byLevel t.maxLevel)) : ∀ p ∈ t.toTables.m.cp, P p := by
  rw [toTables_cp, List.forall_mem_filterMap]
  intro e he p hp
  cases (Option.ite_none_left_eq_some.1 hp).2
  exact h e he

def TTables.ipRow (t : TTables) (l : Nat) : List Str := (t.entries.filter (·.ipLevel == l)).map (·.key)

def TTables.lnRow (t : TTables) (l : Nat) : List Nat :=
  (List.range t.lns.length).filterMap fun i =>
    if t.lns.getD i 0 == l && t.ngram ≤ i + 1 then some (i + 1 - (t.ngram - 1)) else none

theorem toTables_ipTbl (t : TTables) : t.toTables.ipTbl = (List.range (t.maxLevel + 1)).map t.ipRow := rfl
theorem toTables_lnTbl (t : TTables) : t.toTables.lnTbl = (List.range (t.maxLevel + 1)).map t.lnRow := rfl
theorem toTables_maxLevel (t : TTables) : t.toTables.m.maxLevel = t.maxLevel := rfl

theorem mem_ipRow (t : TTables) (l : Nat) (k : Str) :
    k ∈ t.ipRow l ↔ ∃ e ∈ t.entries, e.ipLevel = l ∧ e.key = k := by
  simp only [TTables.ipRow, List.mem_map, List.mem_filter, beq_iff_eq, and_assoc]

/-- `x`, the length behind the initial (n−1)-gram, stands for the whole length `x + (ngram − 1)` -/
theorem mem_lnRow (t : TTables) (l x : Nat) :
    x ∈ t.lnRow l ↔ 0 < x ∧ x + (t.ngram - 1) - 1 < t.lns.length ∧ t.lns.getD (x + (t.ngram - 1) - 1) 0 = l := by
  simp only [TTables.lnRow, List.mem_filterMap, List.mem_range, Option.ite_none_right_eq_some,
    Bool.and_eq_true, beq_iff_eq, decide_eq_true_eq, Option.some.injEq]
  constructor
  · rintro ⟨i, hi, ⟨rfl, hn⟩, rfl⟩
    have hle : t.ngram - 1 ≤ i := Nat.sub_le_of_le_add hn
    rw [Nat.sub_add_cancel (Nat.le_succ_of_le hle), Nat.succ_sub_one]
    exact ⟨Nat.sub_pos_of_lt (Nat.lt_succ_of_le hle), hi, rfl⟩
  · rintro ⟨hx, hi, rfl⟩
    have h1 : x + (t.ngram - 1) - 1 + 1 = x + (t.ngram - 1) := Nat.sub_add_cancel (Nat.le_add_right_of_le hx)
    exact ⟨_, hi, ⟨rfl, h1.symm ▸ (Nat.sub_le_iff_le_add'.1 (Nat.sub_le_sub_left hx _) : t.ngram ≤ x + (t.ngram - 1))⟩,
      by rw [h1, Nat.add_sub_cancel]⟩

theorem ipTbl_nodup (t : TTables) (hk : (t.entries.map (·.key)).Nodup) : t.toTables.ipTbl.flatten.Nodup :=
  nodup_flatMap_filter_map _ hk List.nodup_range

theorem lnTbl_nodup (t : TTables) : t.toTables.lnTbl.flatten.Nodup := by
  rw [toTables_lnTbl, ← List.flatMap_def]
  refine List.nodup_flatMap List.nodup_range (fun l _ => ?_) fun a _ b _ hab y hy hy' =>
    hab (((mem_lnRow t a y).1 hy).2.2.symm.trans ((mem_lnRow t b y).1 hy').2.2)
  -- on the lengths that are stored, `length ↦ length − (ngram − 1)` is one-to-one
  refine List.nodup_filterMap (fun i _ j _ c hi hj => ?_) List.nodup_range
  simp only [Option.ite_none_right_eq_some, Bool.and_eq_true, decide_eq_true_eq, Option.some.injEq] at hi hj
  have le {k} (hk : t.ngram ≤ k + 1) : t.ngram - 1 ≤ k + 1 := Nat.le_trans (Nat.sub_le _ 1) hk
  exact Nat.succ.inj
    (((Nat.sub_eq_iff_eq_add (le hi.1.2)).1 hi.2).trans ((Nat.sub_eq_iff_eq_add (le hj.1.2)).1 hj.2).symm)

/-- the well-formedness hypotheses (same fields as `TTables.WF` in `Properties/OmenTrainCore`) -/
structure TTables.Good (t : TTables) : Prop where
  ngram_ge : 2 ≤ t.ngram
  keys_nodup : (t.entries.map (·.key)).Nodup
  key_len : ∀ e ∈ t.entries, e.key.length = t.ngram - 1
  letters_nodup : ∀ e ∈ t.entries, (e.next.map (·.1)).Nodup
  ip_levels : ∀ e ∈ t.entries, e.ipLevel ≤ t.maxLevel
  cp_levels : ∀ e ∈ t.entries, ∀ p ∈ e.next, p.2 ≤ t.maxLevel
  ln_levels : ∀ l ∈ t.lns, l ≤ t.maxLevel

theorem toTables_WF (t : TTables) (hg : t.Good) : t.toTables.WF (t.ngram - 1) where
  ip_len l hl s hs := by
    obtain ⟨a, _, rfl⟩ := List.mem_map.1 (toTables_ipTbl t ▸ hl)
    obtain ⟨e, he, _, rfl⟩ := (mem_ipRow t a s).1 hs
    exact hg.key_len e he
  ip_nodup := ipTbl_nodup t hg.keys_nodup
  ln_nodup := lnTbl_nodup t
  ln_pos l hl n hn := by
    obtain ⟨a, _, rfl⟩ := List.mem_map.1 (toTables_lnTbl t ▸ hl)
    exact ((mem_lnRow t a n).1 hn).1
  ip_levels := (List.length_map _).trans List.length_range
  ln_levels := (List.length_map _).trans List.length_range
  cp_keys := by
    rw [toTables_cp, List.filterMap_ite_none, List.map_map]
    exact hg.keys_nodup.sublist (List.filter_sublist.map _)
  cp_key_len := forall_mem_toTables_cp t hg.key_len
  cp_levels := forall_mem_toTables_cp t fun e _ => ⟨e.byLevel_levels _, fun p hp =>
    have h := TEntry.mem_byLevel.1 hp
    ⟨h.1, h.2.2 ▸ h.2.1⟩⟩
  cp_chars := forall_mem_toTables_cp t fun e he => e.byLevel_chars _ (hg.letters_nodup e he)

theorem Tables.WF.cpChars_eq_some_iff {t : Tables} {n : Nat} (h : t.WF n) {ip : Str} {l : Nat} {cs : List Char} :
    t.m.cpChars ip l = some cs ↔ ∃ v, (ip, v) ∈ t.m.cp ∧ (l, cs) ∈ v := by
  constructor
  · intro hc
    obtain ⟨v, hv, hl⟩ := Option.bind_eq_some_iff.1 hc
    exact ⟨v, assocGet_mem hv, assocGet_mem hl⟩
  · rintro ⟨v, hv, hl⟩
    exact Option.bind_eq_some_iff.2 ⟨v, (assocGet_eq_some_iff h.cp_keys).2 hv,
      (assocGet_eq_some_iff (h.cp_levels _ hv).1).2 hl⟩

/-- what the `cp` of `toTables` answers to a `cp[prefix][level]` look-up: the one fact about it that the
generator, the keyspace count and the loader need -/
theorem toTables_cpChars (t : TTables) (hg : t.Good) (ip : Str) (l : Nat) :
    t.toTables.m.cpChars ip l =
      (t.entry ip).bind fun e => if e.charsAt l = [] then none else some (e.charsAt l) := by
  refine Option.ext fun cs => ?_
  rw [(toTables_WF t hg).cpChars_eq_some_iff]
  constructor
  · rintro ⟨v, hv, hl⟩
    obtain ⟨e, he, _, rfl, rfl⟩ := (mem_toTables_cp t _ v).1 hv
    obtain ⟨_, hne, rfl⟩ := TEntry.mem_byLevel.1 hl
    rw [entry_of_mem hg.keys_nodup he, Option.bind_some, if_neg hne]
  · intro h
    obtain ⟨e, he, h⟩ := Option.bind_eq_some_iff.1 h
    obtain ⟨hne, hcs⟩ := Option.ite_none_left_eq_some.1 h
    cases hcs
    obtain ⟨hm, rfl⟩ := entry_some he
    -- a letter listed at `l` carries a level within range
    obtain ⟨c, hc⟩ := List.exists_mem_of_ne_nil _ hne
    have hl := TEntry.mem_byLevel.2 ⟨hg.cp_levels e hm _ (TEntry.mem_charsAt.1 hc), hne, rfl⟩
    exact ⟨_, (mem_toTables_cp t _ _).2 ⟨e, hm, List.ne_nil_of_mem hl, rfl, rfl⟩, hl⟩

theorem toTables_chars (t : TTables) (hg : t.Good) (ip : Str) (l : Nat) :
    t.toTables.m.chars ip l = match t.entry ip with
      | none => []
      | some e => e.charsAt l := by
  refine (congrArg (·.getD []) (toTables_cpChars t hg ip l)).trans ?_
  cases t.entry ip with
  | none => rfl
  | some e =>
    show (if e.charsAt l = [] then none else some (e.charsAt l)).getD [] = e.charsAt l
    cases e.charsAt l <;> rfl

theorem toTables_cpLevel (t : TTables) (hg : t.Good) (ip : Str) (c : Char) :
    t.toTables.m.cpLevel ip c = (t.entry ip).bind (·.letter c) := by
  refine Option.ext fun l => ?_
  rw [← mem_chars_iff (toTables_WF t hg).entriesWF, toTables_chars t hg]
  cases he : t.entry ip with
  | none => simp
  | some e =>
    exact TEntry.mem_charsAt.trans (TEntry.letter_eq_some_iff (hg.letters_nodup e (entry_some he).1)).symm

theorem toTables_transCost (t : TTables) (hg : t.Good) (body : List Char) (ip : Str) :
    t.toTables.m.transCost ip body = t.chain ip body := by
  induction body generalizing ip with
  | nil => rfl
  | cons c cs ih =>
    rw [Model.transCost, TTables.chain, toTables_cpLevel t hg, ih]
    cases t.entry ip <;> rfl

theorem tblLevel_map_range {α : Type} [BEq α] [LawfulBEq α] (n : Nat) (row : Nat → List α)
    (hn : ((List.range n).map row).flatten.Nodup) (v : α) (a : Nat) :
    tblLevel ((List.range n).map row) v = some a ↔ a < n ∧ v ∈ row a := by
  rw [tblLevel_iff _ hn, List.length_map, List.length_range, List.getD_map_range]
  exact and_congr_right fun h => by rw [if_pos h]

theorem tblLevel_ip (t : TTables) (hg : t.Good) (k : Str) (a : Nat) :
    tblLevel t.toTables.ipTbl k = some a ↔ ∃ e, t.entry k = some e ∧ e.ipLevel = a := by
  rw [toTables_ipTbl, tblLevel_map_range _ _ (toTables_ipTbl t ▸ ipTbl_nodup t hg.keys_nodup), mem_ipRow]
  constructor
  · rintro ⟨_, e, he, rfl, rfl⟩; exact ⟨e, entry_of_mem hg.keys_nodup he, rfl⟩
  · rintro ⟨e, he, rfl⟩
    obtain ⟨hm, hk⟩ := entry_some he
    exact ⟨Nat.lt_succ_of_le (hg.ip_levels e hm), e, hm, rfl, hk⟩

/-- the length table is keyed by the length behind the initial (n−1)-gram -/
theorem tblLevel_ln (t : TTables) (hg : t.Good) {len : Nat} (h : t.ngram ≤ len) (a : Nat) :
    tblLevel t.toTables.lnTbl (len - (t.ngram - 1)) = some a ↔ len - 1 < t.lns.length ∧ t.lns.getD (len - 1) 0 = a := by
  have hlt : t.ngram - 1 < len := Nat.sub_one_lt_of_le (Nat.lt_of_lt_of_le Nat.zero_lt_two hg.ngram_ge) h
  rw [toTables_lnTbl, tblLevel_map_range _ _ (toTables_lnTbl t ▸ lnTbl_nodup t), mem_lnRow,
    Nat.sub_add_cancel (Nat.le_of_lt hlt)]
  constructor
  · rintro ⟨_, _, h⟩; exact h
  · rintro ⟨hi, rfl⟩
    exact ⟨Nat.lt_succ_of_le (hg.ln_levels _ (getD_mem 0 hi)), Nat.sub_pos_of_lt hlt, hi, rfl⟩

end Omen
