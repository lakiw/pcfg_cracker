import PcfgVerif.Model.OmenCache
/-! The search loops with the memo table threaded through return what the table-free loops return, for every table of
true results (`CacheOK`), and leave such a table behind: `loopC c = (loop, c')` with `CacheOK c'`, given the same of
the calls the loop makes. -/
namespace Omen

theorem Cache.lookup_nil (k : CKey) : Cache.lookup [] k = none := rfl

theorem Cache.lookup_update (c : Cache) (k k' : CKey) (v : Option (List Item)) :
    (c.update k v).lookup k' = if k = k' then some v else c.lookup k' := by
  unfold Cache.lookup Cache.update
  by_cases h : k = k' <;> simp [h]

theorem CacheOK.update {m : Model} {c : Cache} (h : CacheOK m c) (ip : Str) (len target : Nat)
    (v : Option (List Item)) (hv : v = m.fill len ip target) :
    CacheOK m (c.update (ip, len, target) v) := by
  intro ip' len' target' v' hl
  rw [Cache.lookup_update] at hl
  split at hl
  · next heq => cases heq; cases hl; exact hv
  · exact h _ _ _ _ hl

theorem cacheOK_nil (m : Model) : CacheOK m [] := by
  intro ip len target v h
  rw [Cache.lookup_nil] at h
  cases h

theorem fillIdxsC_inv (m : Model) (rec : Cache → Str → Option (List Item) × Cache)
    (rec0 : Str → Option (List Item))
    (hrec : ∀ c ip, CacheOK m c → ∃ c', rec c ip = (rec0 ip, c') ∧ CacheOK m c')
    (ip : Str) (l : Nat) (cs : List Char) :
    ∀ (c : Cache) (i : Nat), CacheOK m c →
      ∃ c', fillIdxsC rec ip l c i cs = (fillIdxs rec0 ip l i cs, c') ∧ CacheOK m c' := by
  induction cs with
  | nil => exact fun c _ h => ⟨c, rfl, h⟩
  | cons ch rest ih =>
    intro c i h
    obtain ⟨c', hr, h'⟩ := hrec c (nextIp ip ch) h
    unfold fillIdxsC fillIdxs
    rw [hr]
    cases rec0 (nextIp ip ch) with
    | some t => exact ⟨c', rfl, h'⟩
    | none => exact ih c' (i+1) h'

theorem fillLevelsC_inv (m : Model) (rec : Cache → Str → Nat → Option (List Item) × Cache)
    (rec0 : Str → Nat → Option (List Item))
    (hrec : ∀ c ip t, CacheOK m c → ∃ c', rec c ip t = (rec0 ip t, c') ∧ CacheOK m c')
    (ip : Str) (target : Nat) (fuel : Nat) :
    ∀ (c : Cache) (cur : Nat), CacheOK m c →
      ∃ c', m.fillLevelsC rec ip target fuel c cur = (m.fillLevels rec0 ip target fuel cur, c') ∧ CacheOK m c' := by
  induction fuel with
  | zero => exact fun c _ h => ⟨c, rfl, h⟩
  | succ fuel ih =>
    intro c cur h
    unfold Model.fillLevelsC Model.fillLevels
    rcases m.findCp ip cur 0 with _ | ⟨cs, l⟩
    · exact ⟨c, rfl, h⟩
    obtain ⟨c', hi, h'⟩ := fillIdxsC_inv m _ (fun ip' => rec0 ip' (target - l))
      (fun c ip => hrec c ip _) ip l cs c 0 h
    simp only [hi]
    cases fillIdxs (fun ip' => rec0 ip' (target - l)) ip l 0 cs with
    | some t => exact ⟨c', rfl, h'⟩
    | none =>
      dsimp only
      split
      · exact ⟨c', rfl, h'⟩
      · exact ih c' _ h'

theorem fillC_eq_fill (m : Model) (maxLen len : Nat) : ∀ (c : Cache) (ip : Str) (target : Nat),
    CacheOK m c →
    (m.fillC maxLen len c ip target).1 = m.fill len ip target ∧ CacheOK m (m.fillC maxLen len c ip target).2 := by
  induction len with
  | zero => exact fun _ _ _ h => ⟨rfl, h⟩
  | succ len ih =>
    intro c ip target h
    cases len with
    | zero =>
      unfold Model.fillC Model.fill
      cases m.findCp ip target target <;> exact ⟨rfl, h⟩
    | succ len =>
      -- the search below the table: the loops of `fill (len + 2)` over the memoised `fillC (len + 1)`
      obtain ⟨c', hL, h'⟩ := fillLevelsC_inv m (m.fillC maxLen (len + 1)) (m.fill (len + 1))
        (fun c ip t hc => let ⟨e, h'⟩ := ih c ip t hc; ⟨_, Prod.ext e rfl, h'⟩)
        ip target (target + 1) c target h
      unfold Model.fillC Model.fill
      rw [hL]
      split
      · cases hlk : c.lookup (ip, len + 2, target) with
        | some r => exact ⟨h _ _ _ _ hlk, h⟩
        | none => exact ⟨rfl, h'.update ip (len + 2) target _ rfl⟩
      · exact ⟨rfl, h'⟩

theorem fillC_history (m : Model) (maxLen : Nat) (calls : List (Nat × Str × Nat))
    (acc : List (Option (List Item)) × Cache) (h : CacheOK m acc.2) :
    (calls.foldl (fun (acc : List (Option (List Item)) × Cache) k =>
        let r := m.fillC maxLen k.1 acc.2 k.2.1 k.2.2
        (acc.1 ++ [r.1], r.2)) acc).1 =
    acc.1 ++ calls.map fun k => m.fill k.1 k.2.1 k.2.2 := by
  induction calls generalizing acc with
  | nil => exact (List.append_nil _).symm
  | cons k rest ih =>
    have hk := fillC_eq_fill m maxLen k.1 acc.2 k.2.1 k.2.2 h
    refine (ih (acc.1 ++ [_], _) hk.2).trans ?_
    rw [hk.1, List.append_assoc]
    rfl

end Omen
