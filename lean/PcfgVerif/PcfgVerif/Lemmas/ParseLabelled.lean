import PcfgVerif.Lemmas.DetectPieces
import PcfgVerif.Lemmas.Labels
import PcfgVerif.Lemmas.DetectAlpha
import PcfgVerif.Lemmas.DetectKeyboard
/-! The pipeline as a whole, and the parser's bookkeeping.  One list-level pass (`splitLoop_labelled`): a detector call adds
labelled pieces and a found item at once, so the loop invariant needs no category (categories are read off the labels, `labelCat`,
only afterwards, in `ScoreCoherent`).  The whole pipeline, stage by stage (`parse_def`, `parse_labelled`): the labelled sections of `parse` are, up to
order, the items it reports, each under the label its kind and length dictate. -/
namespace Pcfg.Detect

/-- **one list-level pass** over sections `s` that tile the password and whose labelled ones are, up to order, `rep`; `r` is
its result (given by an equation, so that the stages of a pipeline can be variables).  Each call that finds something has a witness `γ` (the found item itself, or more: the alpha detector's records)
that determines the found item (`out γ`) and the labelled pieces (`φ γ`).  After the pass the sections still tile the password
and have gained, as labelled sections, exactly what the witnesses say (as a multiset: `recheck` reports out of order). -/
theorem splitLoop_labelled {F G : Type} {U : UEnv} {pw : CPs} (hl : LenPres U pw)
    {detect : CPs → Option (List Sec × F)} {adv : Advance} (hd : DetectorOK U detect)
    (out : G → F) (φ : G → List (String × CPs)) (Q : G → Prop)
    (hcall : ∀ text pieces f, LenPres U text → (∃ a b, text = slice pw a b) →
      detect text = some (pieces, f) → ∃ γ, f = out γ ∧ labelled pieces = φ γ ∧ Q γ)
    {s : List Sec} {rep : List (String × CPs)} {r : List Sec × List F}
    (hr : r = splitLoop detect adv (loopFuel s) [] s [])
    (hs : TilesFrom U pw 0 s) (hrep : (labelled s).Perm rep) :
    ∃ γs : List G, r.2 = γs.map out ∧ TilesFrom U pw 0 r.1 ∧
      (labelled r.1).Perm (γs.flatMap φ ++ rep) ∧ ∀ γ ∈ γs, Q γ := by
  subst hr
  refine splitLoop_inv detect adv
    (fun secs found => ∃ γs : List G, found = γs.map out ∧ TilesFrom U pw 0 secs ∧
      (labelled secs).Perm (γs.flatMap φ ++ rep) ∧ ∀ γ ∈ γs, Q γ)
    ?_ _ [] s [] ⟨[], rfl, hs, hrep, nofun⟩
  rintro done text rest pieces f found ⟨γs, rfl, ht, hperm, hQ⟩ hdt
  obtain ⟨ht', hlp, hsl⟩ := tiles_step U detect hd pw hl done text rest pieces f ht hdt
  obtain ⟨γ, rfl, htx, hq⟩ := hcall text pieces f hlp hsl hdt
  refine ⟨γs ++ [γ], by simp, ht', ?_, ?_⟩
  · rw [labelled_append, labelled_cons_none] at hperm
    rw [labelled_append, labelled_append, htx, List.flatMap_append, List.flatMap_singleton]
    -- `done ++ new ++ rest` against `(old ++ new) ++ rep`, knowing `done ++ rest ~ old ++ rep`
    refine (List.perm_append_comm_assoc _ _ _).trans ?_
    refine ((hperm.append_left (φ γ)).trans ?_)
    rw [List.append_assoc]
    exact (List.perm_append_comm_assoc _ _ _)
  · exact List.forall_mem_append.mpr ⟨hQ, List.forall_mem_singleton.mpr hq⟩

/-- `parse` with its stages as projections of the pairs the detectors return -/
theorem parse_def (U : UEnv) (cfg : MWCfg) (t : MWTable) (pw : CPs) :
    parse U cfg t pw =
      let r0 := detectKeyboardWalk U pw
      let r1 := splitLoop (detectEmail U) .skipFirst (loopFuel r0.1) [] r0.1 []
      let r2 := splitLoop (detectWebsite U) .skipFirst (loopFuel r1.1) [] r1.1 []
      let r3 := splitLoop (detectYear U) .recheck (loopFuel r2.1) [] r2.1 []
      let r4 := splitLoop (detectContext U) .recheck (loopFuel r3.1) [] r3.1 []
      let r5 := splitLoop (detectAlpha U cfg t) .skipFirst (loopFuel r4.1) [] r4.1 []
      let r6 := splitLoop (detectDigits U) .skipFirst (loopFuel r5.1) [] r5.1 []
      let r7 := otherDetection r6.1
      { sections := r7.1, walks := r0.2, emails := r1.2, websites := r2.2, years := r3.2,
        contexts := r4.2, alphas := r5.2.flatMap (·.1), masks := r5.2.flatMap (·.2), digits := r6.2,
        others := r7.2, supported := (baseStructure r7.1).1, structure' := (baseStructure r7.1).2 } := by
  simp only [parse]

/-- the items `parse` reports, each under the label its kind and length dictate; `ew`: the e-mail
and website sections (their texts are not recoverable from `emails`, `websites`, which hold
lower-cased strings cut differently), `recs`: the alpha records -/
def reported (p : Parsed) (ew : List (String × CPs)) (recs : List AlphaRec) : List (String × CPs) :=
  (p.others.map fun v => (lbl 'O' v.length, v)) ++ ((p.digits.map fun v => (lbl 'D' v.length, v)) ++
  (recs.map recPair ++ (p.contexts.map (("X1", ·)) ++ (p.years.map (("Y1", ·)) ++
  (ew ++ p.walks.map fun v => (lbl 'K' v.length, v))))))

theorem reported_labelOK (p : Parsed) (ew : List (String × CPs)) (recs : List AlphaRec)
    (hew : ∀ x ∈ ew, x.1 = "E" ∨ x.1 = "W") (x : String × CPs) (hx : x ∈ reported p ew recs) :
    LabelOK x.2 x.1 := by
  simp only [reported, List.mem_append, List.mem_map] at hx
  rcases hx with ⟨v, _, rfl⟩ | ⟨v, _, rfl⟩ | ⟨r, _, rfl⟩ | ⟨v, _, rfl⟩ | ⟨v, _, rfl⟩ | hx | ⟨v, _, rfl⟩
  · simp only [LabelOK, true_or, or_true]
  · simp only [LabelOK, true_or, or_true]
  · simp only [LabelOK, recPair, true_or, or_true]
  · simp only [LabelOK, true_or, or_true]
  · simp only [LabelOK, true_or, or_true]
  · rcases hew x hx with h | h <;> simp only [LabelOK, h, true_or, or_true]
  · simp only [LabelOK, true_or]

section
variable (U : UEnv) (cfg : MWCfg) (t : MWTable) (pw : CPs) (hne : pw ≠ []) (hl : LenPres U pw)
include hne hl

/-- **the parser's bookkeeping**: the sections tile the password (for every multi-word
configuration), every one is labelled, and as (label, text) pairs they are, up to order, the
reported items under their labels; every word comes with its record; years have four characters -/
theorem parse_labelled :
    TilesFrom U pw 0 (parse U cfg t pw).sections ∧ AllLabelled (parse U cfg t pw).sections ∧
    ∃ (ew : List (String × CPs)) (recs : List AlphaRec), (∀ x ∈ ew, x.1 = "E" ∨ x.1 = "W") ∧
      (parse U cfg t pw).alphas = recs.map (·.word) ∧ (parse U cfg t pw).masks = recs.map (·.mask) ∧
      (∀ r ∈ recs, RecOK U pw r) ∧ (∀ y ∈ (parse U cfg t pw).years, y.length = 4) ∧
      (labelled (parse U cfg t pw).sections).Perm (reported (parse U cfg t pw) ew recs) := by
  -- stage by stage; the results of the stages are variables `r0 … r7` known by their equations only, so that nothing unfolds them
  have hp := parse_def U cfg t pw
  extract_lets r0 r1 r2 r3 r4 r5 r6 r7 at hp
  clear_value (h7 : r7 = _) (h6 : r6 = _) (h5 : r5 = _) (h4 : r4 = _) (h3 : r3 = _) (h2 : r2 = _)
    (h1 : r1 = _) (h0 : r0 = _)
  have K := detectKeyboardWalk_out U pw hne
  rw [← h0] at K
  obtain ⟨es, -, W1, T1, -⟩ := splitLoop_labelled hl (detectEmail_ok U)
    (G := (CPs × CPs) × CPs) (·.1) (fun g => [("E", g.2)]) (fun _ => True)
    (fun text pieces f hlt _ h => (detectEmail_labelled U text pieces f (lenPres_length U text hlt) h).elim
      fun x hx => ⟨(f, x), rfl, hx, trivial⟩)
    h1 K.tiles (.of_eq K.walks)
  obtain ⟨ws, -, W2, T2, -⟩ := splitLoop_labelled hl (detectWebsite_ok U)
    (G := (CPs × CPs × Option CPs) × CPs) (·.1) (fun g => [("W", g.2)]) (fun _ => True)
    (fun text pieces f _ _ h => (detectWebsite_labelled U text pieces f h).elim
      fun x hx => ⟨(f, x), rfl, hx, trivial⟩)
    h2 W1 T1
  obtain ⟨ys, hys, W3, T3, Q3⟩ := splitLoop_labelled hl (detectYear_ok U)
    id (fun y => [("Y1", y)]) (fun y => y.length = 4)
    (fun text pieces f _ _ h =>
      ⟨f, rfl, detectYear_labelled U text pieces f h, (detectYear_sound U text pieces f h).1⟩)
    h3 W2 T2
  obtain ⟨xs, hxs, W4, T4, -⟩ := splitLoop_labelled hl (detectContext_ok U)
    id (fun x => [("X1", x)]) (fun _ => True)
    (fun text pieces f _ _ h => ⟨f, rfl, detectContext_labelled U text pieces f h, trivial⟩)
    h4 W3 T3
  obtain ⟨recss, hrs, W5, T5, Q5⟩ := splitLoop_labelled hl (detectAlpha_ok U cfg t)
    recsOut (fun recs => recs.map recPair) (fun recs => ∀ r ∈ recs, RecOK U pw r)
    (detectAlpha_labelled U cfg t pw) h5 W4 T4
  obtain ⟨ds, hds, W6, T6, -⟩ := splitLoop_labelled hl (detectDigits_ok U)
    id (fun d => [(lbl 'D' d.length, d)]) (fun _ => True)
    (fun text pieces f _ _ h => ⟨f, rfl, detectDigits_labelled U text pieces f h, trivial⟩)
    h6 W5 T5
  have T7 := (other_labelled r6.1).trans (T6.append_left _)
  rw [List.map_id] at hys hxs hds
  subst hys hxs hds h7
  rw [hp]
  dsimp only
  refine ⟨otherDetection_tiles U pw r6.1 W6, (otherDetection_spec r6.1).1,
    ws.flatMap (fun g => [("W", g.2)]) ++ es.flatMap (fun g => [("E", g.2)]), recss.flatten,
    ?_, ?_, ?_, List.forall_mem_flatten.mpr Q5, Q3, ?_⟩
  · intro x hx
    simp only [List.mem_append, List.mem_flatMap, List.mem_singleton] at hx
    rcases hx with ⟨_, _, rfl⟩ | ⟨_, _, rfl⟩ <;> simp
  · rw [hrs, List.flatMap_map, List.map_flatten, List.flatMap_def]; rfl
  · rw [hrs, List.flatMap_map, List.map_flatten, List.flatMap_def]; rfl
  · rw [← List.map_eq_flatMap, ← List.map_eq_flatMap, ← List.map_eq_flatMap,
      List.flatMap_def, ← List.map_flatten, ← List.append_assoc (ws.flatMap _)] at T7
    exact T7

theorem parse_labelOK : ∀ s ∈ (parse U cfg t pw).sections, ∃ l, s.2 = some l ∧ LabelOK s.1 l := by
  obtain ⟨-, hlab, ew, recs, hew, -, -, -, -, hperm⟩ := parse_labelled U cfg t pw hne hl
  intro s hs
  obtain ⟨l, hl⟩ := Option.isSome_iff_exists.mp (hlab s hs)
  exact ⟨l, hl, reported_labelOK _ ew recs hew (l, s.1)
    (hperm.mem_iff.mp (List.mem_filterMap.mpr ⟨s, hs, by simp [hl]⟩))⟩

/-- the labels the base structure is joined from fit their texts -/
theorem parse_labels :
    ∀ l ∈ (parse U cfg t pw).sections.map ScoreB.lab, ∃ text, LabelOK text l := by
  intro l hlm
  obtain ⟨s, hs, rfl⟩ := List.mem_map.mp hlm
  obtain ⟨l', hl', hok⟩ := parse_labelOK U cfg t pw hne hl s hs
  exact ⟨s.1, by rw [ScoreB.lab, hl']; exact hok⟩

end

/-- `digit_detection` leaves no digit unlabelled (`detectDigits_exhausts`), so the `other` strings the parser reports contain none -/
theorem parse_others_no_digit (U : UEnv) (cfg : MWCfg) (t : MWTable) (pw : CPs) :
    ∀ o ∈ (parse U cfg t pw).others, ∀ c ∈ o, U.isDigit c = false := by
  intro o ho
  rw [parse_def] at ho
  obtain ⟨s, hs, hn, rfl⟩ := mem_otherDetection_snd ho
  exact (stage_exhaustive _ _ _ (detectDigits_exhausts U (fun _ => True) fun _ _ _ _ => trivial) _
    (fun _ _ _ => trivial) s hs hn).2

/-- the base structure `parse` reports is the sections' labels joined (`structure_eq`); stated through `baseStructure` so that
`parse_def` closes it by projections: `rfl` would unfold the pipeline -/
theorem parse_structure (U : UEnv) (cfg : MWCfg) (t : MWTable) (pw : CPs) :
    (parse U cfg t pw).structure' = String.join ((parse U cfg t pw).sections.map ScoreB.lab) := by
  show _ = String.join (List.map (fun s : Sec => s.2.getD "?") _)
  rw [← ScoreB.structure_eq, parse_def]

end Pcfg.Detect
