import PcfgVerif.Lemmas.RuleDirLemmas
import PcfgVerif.Lemmas.Labels
import PcfgVerif.Model.Counters
/-! A length-indexed folder written by the trainer (`save_indexed_counters`), listed in `config.ini` (`create_filename_list`) and read
back by `_load_from_multiple_files`: every length's variable holds the content of that length's file; and the sections of
`config.ini` read one after the other into one dict (`loadAll`): different letters never collide. -/
namespace Pcfg.Trainer
open Pcfg.Detect Pcfg.LoadMulti Pcfg.RuleDir

/-- one section: its letter, the counter dict it was written from, how a listed file is read, what each file should give -/
structure Sect (β : Type) where
  ch : Char
  d : LenCtr
  read : String → Option β
  val : Nat × MWTable → Option β

structure Sect.Good {β : Type} (s : Sect β) : Prop where
  nodup : (s.d.map (·.1)).Nodup
  reads : ∀ e ∈ s.d, s.read (toString e.1 ++ ".txt") = s.val e
  parses : ∀ e ∈ s.d, (s.val e).isSome

theorem multi_generic {β : Type} {s : Sect β} (hs : s.Good) (g0 : List (String × β)) :
    ∃ g', loadMultiple s.read (String.ofList [s.ch]) (s.d.map fun e => toString e.1 ++ ".txt") g0 = some g' ∧
      (∀ e ∈ s.d, lookup g' (lbl s.ch e.1) = s.val e) ∧
      (∀ k, (∀ n, lbl s.ch n ≠ k) → lookup g' k = lookup g0 k) := by
  obtain ⟨g', hg'⟩ := Option.isSome_iff_exists.mp
    (loadMultiple_ok s.read (String.ofList [s.ch]) (s.d.map fun e => toString e.1 ++ ".txt") g0
      (List.forall_mem_map.mpr fun e he => by rw [hs.reads e he]; exact hs.parses e he))
  -- the variable of the file `<n>.txt` is `<letter><n>` (`cat_stem`), and different lengths give different variables
  refine ⟨g', hg', fun e he => ?_, fun k hk => ?_⟩
  · rw [← cat_stem s.ch e.1, loadMultiple_each s.read _ _ g0 g' hg' ?_ (toString e.1 ++ ".txt") (List.mem_map.mpr ⟨e, he, rfl⟩),
      hs.reads e he]
    exact List.pairwise_map.mpr (List.pairwise_map.mpr ((List.pairwise_map.mp hs.nodup).imp fun hab h =>
      hab (lbl_inj s.ch _ _ ((cat_stem s.ch _).symm.trans (h.trans (cat_stem s.ch _))))))
  · rw [loadMultiple_lookup s.read _ _ g0 g' hg' k, List.find?_eq_none.mpr]
    intro f hf
    obtain ⟨e, _, rfl⟩ := List.mem_map.mp (List.mem_reverse.mp hf)
    rw [cat_stem]
    exact mt beq_iff_eq.mp (hk e.1)

/-- the section of a folder written by `save_indexed_counters` from `d` (whatever the folder held before), its files read through
`parse` -/
theorem savedSect_good {γ β : Type} (ch : Char) (d : LenCtr) (hnd : (d.map (·.1)).Nodup) (content : MWTable → γ)
    (parse : γ → Option β) (hparse : ∀ e ∈ d, (parse (content e.2)).isSome) (old : List (String × γ)) :
    Sect.Good ⟨ch, d,
      fun fn => (lookup (saveIndexed (fun n : Nat => toString n) ".txt" old (d.map fun e => (e.1, content e.2))) fn).bind parse,
      fun e => parse (content e.2)⟩ := by
  refine ⟨hnd, fun e he => ?_, hparse⟩
  -- stated on its own: as an argument its type is found by unification, which unfolds the strings
  have hnames : ((d.map fun e => (e.1, content e.2)).map fun kc : Nat × γ => toString kc.1 ++ ".txt").Nodup := by
    rw [List.map_map]
    exact List.nodup_map_comp (fun e : Nat × MWTable => e.1) (fun n : Nat => toString n ++ ".txt") txt_inj d hnd
  exact congrArg (·.bind parse)
    (saveIndexed_lookup (fun n : Nat => toString n) ".txt" old _ hnames (e.1, content e.2) (List.mem_map.mpr ⟨e, he, rfl⟩))

/-- **a trained length-indexed folder loads into its variables**: write one file per length of the counter dict (whatever the folder
held before), list them in the config, read them back with `_load_from_multiple_files`: the load succeeds when every file parses,
and the variable `<letter><n>` holds exactly the parsed content of the file written for length n; variables of other
categories are untouched -/
theorem trained_folder_loads {γ β : Type} (ch : Char) (d : LenCtr) (hnd : (d.map (·.1)).Nodup) (content : MWTable → γ)
    (parse : γ → Option β) (hparse : ∀ e ∈ d, (parse (content e.2)).isSome) (old : List (String × γ)) (g0 : List (String × β)) :
    ∃ g', loadMultiple (fun fn => (lookup (saveIndexed (fun n : Nat => toString n) ".txt" old (d.map fun e => (e.1, content e.2))) fn).bind parse)
        (String.ofList [ch]) (filenameList (fun n : Nat => toString n) ".txt" (d.map fun e => (e.1, content e.2))) g0 = some g' ∧
      (∀ e ∈ d, lookup g' (lbl ch e.1) = parse (content e.2)) ∧
      (∀ k, (∀ n, lbl ch n ≠ k) → lookup g' k = lookup g0 k) := by
  rw [filenameList, List.map_map]
  exact multi_generic (savedSect_good ch d hnd content parse hparse old) g0

/-- `_load_terminals`: the sections in source order, each through `_load_from_multiple_files`, into one grammar dict; `none` = some
section returned `False` -/
def loadAll {β : Type} : List (Sect β) → List (String × β) → Option (List (String × β))
  | [], g => some g
  | s :: rest, g =>
    match loadMultiple s.read (String.ofList [s.ch]) (s.d.map fun e => toString e.1 ++ ".txt") g with
    | none => none
    | some g1 => loadAll rest g1

/-- **every section ends up under its own variables, whatever was loaded before or after it**: with pairwise different section letters
all sections load, and the variable `<letter><n>` of each section holds what that section's file of length n gives; names that
belong to no section keep what the grammar held before -/
theorem loadAll_spec {β : Type} (secs : List (Sect β)) (hdist : (secs.map (·.ch)).Nodup) (hgood : ∀ s ∈ secs, s.Good)
    (g0 : List (String × β)) :
    ∃ g', loadAll secs g0 = some g' ∧
      (∀ s ∈ secs, ∀ e ∈ s.d, lookup g' (lbl s.ch e.1) = s.val e) ∧
      (∀ k, (∀ s ∈ secs, ∀ n, lbl s.ch n ≠ k) → lookup g' k = lookup g0 k) := by
  induction secs generalizing g0 with
  | nil => exact ⟨g0, rfl, fun _ hs => absurd hs List.not_mem_nil, fun _ _ => rfl⟩
  | cons s rest ih =>
    rw [List.map_cons, List.nodup_cons] at hdist
    rw [List.forall_mem_cons] at hgood
    obtain ⟨g1, h1, hown, hother⟩ := multi_generic hgood.1 g0
    obtain ⟨g', h2, hrest, huntouched⟩ := ih hdist.2 hgood.2 g1
    refine ⟨g', by rw [loadAll, h1]; exact h2, List.forall_mem_cons.mpr ⟨fun e he => ?_, hrest⟩, fun k hk => ?_⟩
    · -- no later section has the letter of `s`
      rw [huntouched, hown e he]
      exact fun s' hs' n h => hdist.1 (List.mem_map.mpr ⟨s', hs', (lbl_inj2 h).1⟩)
    · rw [List.forall_mem_cons] at hk
      rw [huntouched k hk.2, hother k hk.1]

end Pcfg.Trainer
