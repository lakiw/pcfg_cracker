import PcfgVerif.Lemmas.GridBasic
import PcfgVerif.Lemmas.Best
/-! Characterisation of the generated decision fragments of `find_children` / `_are_you_my_child` and
of the loops built from them. -/
namespace Pcfg
variable {P : Type}

def PAlg.ord (A : PAlg P) : Best.Ord P := ⟨A.le, A.le_refl, A.le_trans, A.le_total⟩

theorem PAlg.not_le {A : PAlg P} {a b : P} (h : A.le a b = false) : A.le b a = true :=
  (A.le_total a b).resolve_left (ne_true_of_eq_false h)

theorem loopRet_ite (c : Nat → Bool) (r d : Bool) : ∀ l,
    loopRet (fun p => if c p then none else some r) d l = if l.all c then d else r
  | [] => rfl
  | p :: ps => by
    rw [loopRet, List.all_cons]
    cases c p
    · rfl
    · exact loopRet_ite c r d ps

/-- the decision chain of the loop body of `_are_you_my_child` over its five tests: it goes on unless the
other parent is strictly less probable, or equally probable and at a lower position -/
theorem aymcChain : ∀ same zero less tied lower : Bool,
    (if same then none else if zero then none else if less then some false
      else if tied then (if lower then some false else none) else none) =
      if zero || (same || !less && !(tied && lower)) then none else some false := by
  decide

theorem aymcBody_eq (A : PAlg P) (pos k item : Nat) (np pp : P) :
    Generated.PQ.aymcBody A.toPOps pos k item np pp =
      if item == 0 || (pos == k || Best.survives A.ord (pp, k) (np, pos)) then none
      else some false :=
  aymcChain ..

theorem fcSkip_eq (a b : Nat) : Generated.PQ.fcSkip a b = (a == b + 1) := rfl

theorem aymcDefault_eq : Generated.PQ.aymcDefault = true := rfl
theorem rootIndex_eq : Generated.PQ.rootIndex = 0 := rfl

theorem queueLt_eq (O : POps P) (a b : P) : Generated.PQ.queueLt O a b = !(O.le a b) := rfl

/-- the parents of a node: probability, and the position that was incremented -/
def cands (O : POps P) (s : Struct P) (v : List Nat) : List (P × Nat) :=
  ((List.range v.length).filter fun pos => v.getD pos 0 != 0).map fun pos =>
    (findProb O s (dec v pos), pos)

theorem mem_cands (O : POps P) (s : Struct P) (v : List Nat) (y : P × Nat) :
    y ∈ cands O s v ↔ 0 < v.getD y.2 0 ∧ y.1 = findProb O s (dec v y.2) := by
  simp only [cands, List.mem_map, List.mem_filter, List.mem_range, bne_iff_ne, ← Nat.pos_iff_ne_zero]
  constructor
  · rintro ⟨pos, ⟨_, hp⟩, rfl⟩
    exact ⟨hp, rfl⟩
  · rintro ⟨h1, h2⟩
    exact ⟨y.2, ⟨getD_pos_lt h1, h1⟩, h2 ▸ rfl⟩

theorem cands_pairwise (O : POps P) (s : Struct P) (v : List Nat) :
    (cands O s v).Pairwise (fun a b => a.2 < b.2) :=
  List.pairwise_map.mpr (List.pairwise_lt_range.filter _)

/-- the positions the loop passes over because the index is 0 (no parent there) are exactly what `cands` filters out -/
theorem areYouMyChild_eq (A : PAlg P) (s : Struct P) (c : List Nat) (k : Nat) (pp : P) :
    areYouMyChild A.toPOps s c k pp = Best.unbeaten A.ord (cands A.toPOps s c) (pp, k) := by
  rw [areYouMyChild, Best.unbeaten, cands, List.all_map, List.all_filter]
  simp only [aymcBody_eq, aymcDefault_eq, loopRet_ite, Bool.if_true_left, Bool.or_false,
    Bool.decide_eq_true, bne, Bool.not_not, Function.comp_apply]

/-- both `find_children` and `_recursive_restore_prob_order` loop over the positions and `continue`
where the index is the last of its column: the positions `≥ left` that are left, in increasing order -/
def stepsFrom (cols : List (List P)) (idx : List Nat) (left : Nat) : List Nat :=
  (List.range idx.length).filter fun pos =>
    decide (left ≤ pos) && !((cols.getD pos []).length == idx.getD pos 0 + 1)

theorem mem_stepsFrom {cols : List (List P)} {idx : List Nat} (hv : validIdx cols idx = true)
    (left pos : Nat) : pos ∈ stepsFrom cols idx left ↔
      left ≤ pos ∧ pos < idx.length ∧ validIdx cols (inc idx pos) = true := by
  simp only [stepsFrom, List.mem_filter, List.mem_range, Bool.and_eq_true, decide_eq_true_eq,
    Bool.not_eq_true', beq_eq_false_iff_ne]
  constructor
  · rintro ⟨hp, hl, hs⟩
    exact ⟨hl, hp, validIdx_inc hv pos (Nat.lt_of_le_of_ne (validIdx_getD hv hp) (Ne.symm hs))⟩
  · rintro ⟨hl, hp, hi⟩
    have := validIdx_getD hi (j := pos) (by rw [length_inc]; exact hp)
    rw [getD_inc, if_pos ⟨rfl, hp⟩] at this
    exact ⟨hp, hl, Nat.ne_of_gt this⟩

theorem stepsFrom_pairwise (cols : List (List P)) (idx : List Nat) (left : Nat) :
    (stepsFrom cols idx left).Pairwise (· < ·) :=
  List.pairwise_lt_range.filter _

theorem filterMap_skip {β : Type} (skip ok : Nat → Bool) (f : Nat → β) (l : List Nat) :
    l.filterMap (fun a => if skip a then none else if ok a then some (f a) else none) =
      ((l.filter fun a => !skip a).filter ok).map f := by
  rw [← List.filterMap_eq_map, List.filterMap_filter, List.filterMap_filter]
  congr 1
  funext a
  cases skip a <;> rfl

theorem findChildren_eq (O : POps P) (s : Struct P) (idx : List Nat) (pp : P) :
    findChildren O s idx pp =
      ((stepsFrom s.cols idx 0).filter fun pos => areYouMyChild O s (inc idx pos) pos pp).map
        (inc idx) :=
  -- up to unfolding `fcSkip` and deciding `0 ≤ pos`, the two sides are those of `filterMap_skip`
  filterMap_skip ..

theorem rootIdx_getD (s : Struct P) (j : Nat) : (rootIdx s).getD j 0 = 0 := by
  simp only [rootIdx, rootIndex_eq, List.getD_eq_getElem?_getD, List.getElem?_map]
  cases s.cols[j]? <;> rfl

theorem rootIdx_length (s : Struct P) : (rootIdx s).length = s.cols.length := by
  simp [rootIdx]

theorem validIdx_rootIdx {O : POps P} {s : Struct P} (hs : WFStruct O s) :
    validIdx s.cols (rootIdx s) = true := by
  refine (validIdx_iff _ _).mpr ⟨rootIdx_length s, fun j hj => ?_⟩
  rw [rootIdx_getD, ← List.getElem_eq_getD (h := hj)]
  exact List.length_pos_iff.mpr (hs _ (List.getElem_mem hj)).1

end Pcfg
