import PcfgVerif.Lemmas.DetectSearch
/-! The per-section detectors for years, context-sensitive strings, websites and e-mails: what each answers (a `cut`), that the
answer tiles the section, what it adds to the labelled sections, what is found, and exactly when something is found. -/
namespace Pcfg.Detect
open Generated.Tables

variable (U : UEnv) (text : CPs) (pieces : List Sec)

theorem detectYear_cut (y : CPs) (h : detectYear U text = some (pieces, y)) :
    ∃ pre ∈ yearPrefixes, ∃ si, OccursAt text pre si ∧ yearOk U text si = true ∧
      y = slice text si (si + 4) ∧ pieces = cut text si (si + 4) [(y, some "Y1")] := by
  obtain ⟨pre, hpre, hf⟩ := List.exists_of_findSome?_eq_some h
  split at hf
  · cases hf
  next si hsi =>
  have ⟨hocc, hok, _⟩ := yearSearch_first_year U text pre hpre si hsi
  obtain ⟨rfl, rfl⟩ := Prod.mk.inj (Option.some.inj hf)
  exact ⟨pre, hpre, si, hocc, hok, rfl,
    cut_eq text si (si + 4) _ _ _ bne_iff_ne ⟨Nat.ne_of_lt, Nat.lt_of_le_of_ne (yearOk_digits hok).1⟩⟩

theorem detectYear_ok : DetectorOK U (detectYear U) := by
  intro text pieces f _ _ h
  obtain ⟨_, _, si, _, hok, rfl, rfl⟩ := detectYear_cut U text pieces f h
  have hb := (yearOk_digits hok).1
  exact tiles_cut U text si (si + 4) _ (List.cons_ne_nil _ _) (Nat.le_add_right ..) hb
    (tilesFrom_cons_slice U text si (si + 4) _ (by decide) (Nat.lt_add_of_pos_right (by decide)) hb)

theorem detectYear_labelled (y : CPs) (h : detectYear U text = some (pieces, y)) : labelled pieces = [("Y1", y)] := by
  obtain ⟨_, _, si, _, _, rfl, rfl⟩ := detectYear_cut U text pieces y h
  exact labelled_cut _ _ _ _

/-- a year segment is four digits starting with one of the prefixes `19` / `20` -/
theorem detectYear_sound (y : CPs) (h : detectYear U text = some (pieces, y)) :
    y.length = 4 ∧ (∃ pre ∈ yearPrefixes, y.take 2 = pre) ∧
    U.isDigit (y.getD 2 0) = true ∧ U.isDigit (y.getD 3 0) = true := by
  obtain ⟨pre, hpre, si, hocc, hok, rfl, _⟩ := detectYear_cut U text pieces y h
  obtain ⟨hb, hd2, hd3⟩ := yearOk_digits hok
  have hp := hocc.2
  rw [yearPrefix_length pre hpre] at hp
  have g (k) (hk : k < 4) : (slice text si (si + 4)).getD k 0 = text.getD (si + k) 0 := by
    rw [slice, Nat.add_sub_cancel_left, List.getD_eq_getElem?_getD, List.getElem?_take_of_lt hk, List.getElem?_drop,
      List.getD_eq_getElem?_getD]
  refine ⟨slice_length_add hb, ⟨pre, hpre, ?_⟩, g 2 (by decide) ▸ hd2, g 3 (by decide) ▸ hd3⟩
  rw [slice, Nat.add_sub_cancel_left, List.take_take]
  exact hp

theorem detectContext_cut (c : CPs) (h : detectContext U text = some (pieces, c)) :
    c ∈ contextList ∧ ∃ si, OccursAt text c si ∧
      pieces = cut text si (si + c.length) [(slice text si (si + c.length), some "X1")] := by
  obtain ⟨rep, hrep, hf⟩ := List.exists_of_findSome?_eq_some h
  split at hf
  · cases hf
  next si hsi =>
  have hocc := (findSub_eq_some_iff.mp hsi).1
  obtain ⟨rfl, rfl⟩ := Prod.mk.inj (Option.some.inj (Option.ite_none_left_eq_some.mp hf).2)
  exact ⟨hrep, si, hocc, cut_eq text si _ _ _ _ bne_iff_ne ⟨Nat.ne_of_lt, Nat.lt_of_le_of_ne hocc.1⟩⟩

theorem detectContext_ok : DetectorOK U (detectContext U) := by
  intro text pieces f _ _ h
  obtain ⟨hc, si, hocc, rfl⟩ := detectContext_cut U text pieces f h
  exact tiles_cut U text si _ _ (List.cons_ne_nil _ _) (Nat.le_add_right ..) hocc.1
    (tilesFrom_cons_slice U text si _ _ (by decide) (Nat.lt_add_of_pos_right (context_ne_nil f hc)) hocc.1)

theorem detectContext_labelled (x : CPs) (h : detectContext U text = some (pieces, x)) : labelled pieces = [("X1", x)] := by
  obtain ⟨_, si, hocc, rfl⟩ := detectContext_cut U text pieces x h
  rw [labelled_cut, occursAt_slice hocc]
  rfl

/-- `rfind` in the first `n` characters: what it finds ends within them, so starts in front of `n` if the pattern is not empty -/
theorem rfindSub_take {w p : CPs} {n i : Nat} (h : rfindSub (w.take n) p = some i) : i ≤ n ∧ (0 < p.length → i < n) :=
  have le := Nat.le_trans (rfindSub_some h).1 (List.length_take_le n w)
  ⟨Nat.le_of_add_right_le le, fun hp => Nat.lt_of_lt_of_le (Nat.lt_add_of_pos_right hp) le⟩

/-- what `detectWebsite` answers: a cut around one `W` section, a slice of the lower-cased text; the slice is not empty, as
the URL starts at or in front of the dot in front of the top-level domain and ends at or behind the domain's end -/
theorem detectWebsite_cut (f : CPs × CPs × Option CPs) (h : detectWebsite U text = some (pieces, f)) :
    ∃ s e, s < e ∧ e ≤ (U.lowerS text).length ∧
      pieces = cut text s e [(slice (U.lowerS text) s e, some "W")] := by
  unfold detectWebsite at h
  extract_lets w tryPrefix at h
  obtain ⟨tld, htld, hf⟩ := List.exists_of_findSome?_eq_some (Option.ite_none_left_eq_some.mp h).2
  clear h
  split at hf
  · cases hf
  next total htot =>
  -- the `let`s of the definition become local definitions, and each bound is proved of the one it is about
  extract_lets endIndex endOfUrl startIndex host found startOfUrl pcs at hf
  have hp (limit p r) (hr : tryPrefix limit p = some r) : r.1 ≤ limit ∧ (0 < (cpsOfString p).length → r.1 < limit) :=
    have ⟨_, hi, hr⟩ := Option.map_eq_some_iff.mp hr
    hr ▸ rfindSub_take hi
  have hT : endIndex ≤ w.length := (tldSearch_first_host_end U w tld htld total htot).1.1
  have h0 : total < endIndex := Nat.lt_add_of_pos_right (tld_ne_nil tld htld)
  have h1 : startIndex ≤ total := by
    simp only [startIndex]
    split
    · next hi => exact (rfindSub_take hi).2 Nat.zero_lt_one
    · exact Nat.zero_le _
  have h2 : startOfUrl ≤ startIndex := by
    simp only [startOfUrl, found]
    split
    · next hr =>
      -- `http://www.` is looked for in front of `startIndex + 1`, the other two in front of `startIndex`
      split at hr
      · next hr' => cases hr; exact Nat.le_of_lt_succ ((hp _ _ _ hr').2 (by decide +kernel))
      split at hr
      · next hr' => cases hr; exact (hp _ _ _ hr').1
      · exact (hp _ _ _ hr).1
    · exact Nat.zero_le _
  have h3 : endIndex ≤ endOfUrl ∧ endOfUrl ≤ w.length := by
    simp only [endOfUrl]
    cases endIndex == w.length
    · cases w.getD endIndex 0 == cpOf '/'
      · exact ⟨Nat.le_refl _, hT⟩
      · exact ⟨hT, Nat.le_refl _⟩
    · exact ⟨Nat.le_refl _, hT⟩
  obtain ⟨rfl, -⟩ := Prod.mk.inj (Option.some.inj hf)
  exact ⟨startOfUrl, endOfUrl, Nat.lt_of_le_of_lt (Nat.le_trans h2 h1) (Nat.lt_of_lt_of_le h0 h3.1), h3.2,
    cut_eq text _ _ _ _ _ bne_iff_ne bne_iff_ne⟩

theorem detectWebsite_ok : DetectorOK U (detectWebsite U) := by
  intro text pieces f _ hl h
  obtain ⟨s, e, hse, he, rfl⟩ := detectWebsite_cut U text pieces f h
  have hlen := slice_length_of_le (a := s) he
  rw [lenPres_length U text hl] at he
  exact tiles_cut U text s e _ (List.cons_ne_nil _ _) (Nat.le_of_lt hse) he
    (tilesFrom_cons_of_length U text s e _ _ hse he hlen (fun h => absurd rfl h) fun _ => rfl)

theorem detectWebsite_labelled (f : CPs × CPs × Option CPs) (h : detectWebsite U text = some (pieces, f)) :
    ∃ x, labelled pieces = [("W", x)] := by
  obtain ⟨s, e, _, _, rfl⟩ := detectWebsite_cut U text pieces f h
  exact ⟨_, labelled_cut _ _ _ _⟩

/-- the model compares the end of the address with the length of the lower-cased text -/
theorem detectEmail_cut (f : CPs × CPs) (hw : (U.lowerS text).length = text.length)
    (h : detectEmail U text = some (pieces, f)) :
    ∃ e, 0 < e ∧ e ≤ text.length ∧ pieces = cut text 0 e [(text.take e, some "E")] := by
  unfold detectEmail at h
  obtain ⟨tld, htld, hf⟩ := List.exists_of_findSome?_eq_some (Option.ite_none_left_eq_some.mp h).2
  split at hf
  · cases hf
  next e0 he0 =>
  extract_lets endIndex at hf
  split at hf
  · cases hf
  obtain ⟨rfl, -⟩ := Prod.mk.inj (Option.some.inj hf)
  exact ⟨e0 + tld.length, Nat.add_pos_right _ (tld_ne_nil tld htld), hw ▸ (findSub_eq_some_iff.mp he0).1.1,
    cut_eq text 0 (e0 + tld.length) _ False _ ⟨False.elim, (· rfl)⟩ (hw ▸ bne_iff_ne)⟩

theorem detectEmail_ok : DetectorOK U (detectEmail U) := by
  intro text pieces f _ hl h
  obtain ⟨e, h0, he, rfl⟩ := detectEmail_cut U text pieces f (lenPres_length U text hl) h
  exact tiles_cut U text 0 e _ (List.cons_ne_nil _ _) e.zero_le he
    (tilesFrom_cons_slice U text 0 e (some "E") (by decide) h0 he)

theorem detectEmail_labelled (f : CPs × CPs) (hw : (U.lowerS text).length = text.length)
    (h : detectEmail U text = some (pieces, f)) :
    ∃ x, labelled pieces = [("E", x)] := by
  obtain ⟨e, _, _, rfl⟩ := detectEmail_cut U text pieces f hw h
  exact ⟨_, labelled_cut _ _ _ _⟩

theorem tld_head_dot : ∀ t ∈ tldList, t[0]? = some (cpOf '.') := by decide +kernel

theorem OccursAt.head_mem {w pat : CPs} {k c : Nat} (h : OccursAt w pat k) (hc : pat[0]? = some c) : c ∈ w :=
  List.mem_of_getElem? ((occursAt_get w pat k h 0 (List.getElem?_eq_some_iff.mp hc).1).trans hc)

/-- **`detect_website` as a whole**: a website is detected in a string exactly when, in its lower-cased working copy, some top-level
domain of the table has an occurrence that ends a host name -/
theorem detectWebsite_isSome_iff :
    (detectWebsite U text).isSome = true ↔
      ∃ tld ∈ tldList, ∃ k, OccursAt (U.lowerS text) tld k ∧ endsHost U (U.lowerS text) tld k = true := by
  unfold detectWebsite
  extract_lets w tryPrefix
  by_cases hdot : (!w.contains (cpOf '.')) = true
  · -- no dot in the string: no top-level domain occurs, as each starts with one
    rw [if_pos hdot]
    refine ⟨(absurd · Bool.false_ne_true), fun ⟨tld, hm, k, hocc, _⟩ => ?_⟩
    simp only [Bool.not_eq_true', List.contains_eq_mem, decide_eq_false_iff_not] at hdot
    exact absurd (hocc.head_mem (tld_head_dot tld hm)) hdot
  · rw [if_neg hdot, List.findSome?_isSome_iff]
    refine exists_congr fun tld => and_congr_right fun hm => ?_
    rw [← tldSearch_finds_iff U w tld hm]
    generalize tldOccurrence U w tld (w.length + 1) (findSub w tld) = o
    cases o <;> exact Iff.rfl

/-- **`detect_email` as a whole**: an e-mail address is detected in a string exactly when, in its lower-cased working copy, the *first*
occurrence of some top-level domain of the table has an `@` somewhere in front of its end -/
theorem detectEmail_isSome_iff :
    (detectEmail U text).isSome = true ↔
      ∃ tld ∈ tldList, ∃ e0, findSub (U.lowerS text) tld = some e0 ∧
        ∃ m, OccursAt ((U.lowerS text).take (e0 + tld.length)) [cpOf '@'] m := by
  unfold detectEmail
  extract_lets w
  by_cases hpre : (!w.contains (cpOf '.') || !w.contains (cpOf '@')) = true
  · rw [if_pos hpre]
    refine ⟨(absurd · Bool.false_ne_true), fun ⟨tld, hm, e0, he0, m, hocc⟩ => ?_⟩
    simp only [Bool.or_eq_true, Bool.not_eq_true', List.contains_eq_mem, decide_eq_false_iff_not] at hpre
    exact hpre.elim (absurd ((findSub_eq_some_iff.mp he0).1.head_mem (tld_head_dot tld hm)))
      (absurd (List.mem_of_mem_take (hocc.head_mem rfl)))
  · rw [if_neg hpre, List.findSome?_isSome_iff]
    refine exists_congr fun tld => and_congr_right fun hm => ?_
    cases findSub w tld with
    | none => exact ⟨(absurd · Bool.false_ne_true), nofun⟩
    | some e0 =>
      simp only [Option.some.injEq, exists_eq_left', ← findSub_isSome_iff]
      generalize findSub (w.take (e0 + tld.length)) [cpOf '@'] = o
      cases o <;> exact Iff.rfl

end Pcfg.Detect
