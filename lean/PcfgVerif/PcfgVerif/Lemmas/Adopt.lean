/-! Abstract adoption system (core of C02, independent of the order of pops): a duplicate-free list of
nodes, each with at most one `adopter`, of smaller rank.  Popping any queued node and pushing the nodes
it adopts keeps one counting equation (`Inv`): `popped ++ queue` holds the nodes whose adopter (if any) has
been popped (`due`), each once. -/
namespace Adopt

variable {α : Type} [DecidableEq α]

structure Sys (α : Type) [DecidableEq α] where
  all : List α
  all_nodup : all.Nodup
  adopter : α → Option α           -- none = root
  rank : α → Nat
  adopter_mem : ∀ v p, v ∈ all → adopter v = some p → p ∈ all
  adopter_rank : ∀ v p, adopter v = some p → rank p < rank v

variable (S : Sys α)

def Sys.roots : List α := S.all.filter (fun v => (S.adopter v).isNone)
def Sys.children (x : α) : List α := S.all.filter (fun v => S.adopter v = some x)

structure St (α : Type) where
  queue : List α
  popped : List α

def Sys.init : St α := ⟨S.roots, []⟩

def Sys.step (s : St α) (x : α) : St α :=
  ⟨s.queue.erase x ++ S.children x, s.popped ++ [x]⟩

def Sys.due (popped : List α) (v : α) : Bool :=
  decide (v ∈ S.all) && (match S.adopter v with | none => true | some p => decide (p ∈ popped))

def Inv (s : St α) : Prop :=
  ∀ v, (s.popped ++ s.queue).count v = if S.due s.popped v then 1 else 0

theorem count_all (v : α) : S.all.count v = if v ∈ S.all then 1 else 0 :=
  S.all_nodup.count

theorem count_filter_all (p : α → Bool) (v : α) :
    (S.all.filter p).count v = if v ∈ S.all ∧ p v = true then 1 else 0 := by
  rw [(S.all_nodup.sublist List.filter_sublist).count]
  simp only [List.mem_filter]

theorem due_iff {popped : List α} {v : α} :
    S.due popped v = true ↔ v ∈ S.all ∧ ∀ p, S.adopter v = some p → p ∈ popped := by
  unfold Sys.due
  cases S.adopter v <;> simp

theorem due_concat {popped : List α} {x v : α} :
    S.due (popped ++ [x]) v = true ↔
      S.due popped v = true ∨ (v ∈ S.all ∧ S.adopter v = some x) := by
  unfold Sys.due
  cases S.adopter v <;> simp [and_or_left]

theorem inv_init : Inv S S.init := by
  intro v
  simp only [Sys.init, List.nil_append, Sys.roots]
  rw [count_filter_all]
  unfold Sys.due
  cases S.adopter v <;> simp

section
variable {S}

theorem inv_nodup {s : St α} (h : Inv S s) : (s.popped ++ s.queue).Nodup :=
  List.nodup_iff_count.mpr fun a => by rw [h a]; split <;> decide

theorem Inv.mem_iff {s : St α} (h : Inv S s) (v : α) :
    v ∈ s.popped ++ s.queue ↔ S.due s.popped v = true := by
  rw [← List.count_pos_iff, h v]
  split <;> simp [*]

theorem inv_mem_all {s : St α} (h : Inv S s) (v : α) (hv : v ∈ s.popped ++ s.queue) : v ∈ S.all :=
  ((due_iff S).mp ((h.mem_iff v).mp hv)).1

theorem Inv.perm {s : St α} {q' : List α} (h : Inv S s) (hp : s.queue.Perm q') :
    Inv S ⟨q', s.popped⟩ := fun v => by
  rw [← h v, List.count_append, List.count_append, hp.count_eq]

end

theorem inv_step (s : St α) (x : α) (h : Inv S s) (hx : x ∈ s.queue) : Inv S (S.step s x) := by
  have hxp : x ∉ s.popped := fun hm => (List.nodup_append.mp (inv_nodup h)).2.2 x hm x hx rfl
  -- the step moves `x` from the queue to `popped` and adds the children of `x`
  have hperm : ((S.step s x).popped ++ (S.step s x).queue).Perm
      ((s.popped ++ s.queue) ++ S.children x) := by
    simp only [Sys.step, List.append_assoc, List.singleton_append, ← List.cons_append]
    exact ((List.perm_cons_erase hx).symm.append_right _).append_left _
  intro v
  rw [hperm.count_eq, List.count_append, h v, Sys.children, count_filter_all]
  simp only [Sys.step, due_concat, decide_eq_true_eq]
  by_cases h2 : v ∈ S.all ∧ S.adopter v = some x
  · -- a child of `x` was not due before, since `x` was not popped
    have h1 : ¬ S.due s.popped v = true := fun h1 => hxp (((due_iff S).mp h1).2 x h2.2)
    rw [if_neg h1, if_pos h2, if_pos (Or.inr h2)]
  · simp only [h2, or_false, if_false, Nat.add_zero]

theorem exhausted_perm (s : St α) (h : Inv S s) (hq : s.queue = []) : s.popped.Perm S.all := by
  have hm := h.mem_iff
  have hnd := inv_nodup h
  rw [hq, List.append_nil] at hm hnd
  -- every node is popped, by induction on its rank: its adopter is popped, so it is due
  have hall : ∀ n v, S.rank v < n → v ∈ S.all → v ∈ s.popped := by
    intro n
    induction n with
    | zero => exact fun v hr => absurd hr (Nat.not_lt_zero _)
    | succ n ih =>
      intro v hr hv
      exact (hm v).mpr ((due_iff S).mpr ⟨hv, fun p hp => ih p
        (Nat.lt_of_lt_of_le (S.adopter_rank v p hp) (Nat.le_of_lt_succ hr)) (S.adopter_mem v p hv hp)⟩)
  exact (List.perm_ext_iff_of_nodup hnd S.all_nodup).mpr fun v =>
    ⟨fun hv => ((due_iff S).mp ((hm v).mp hv)).1, hall _ v (Nat.lt_succ_self _)⟩

def Sys.restrict (alive : α → Bool) : Sys α where
  all := S.all.filter alive
  all_nodup := S.all_nodup.sublist List.filter_sublist
  adopter v := (S.adopter v).filter alive
  rank := S.rank
  adopter_mem v p hv h :=
    have ⟨hp, ha⟩ := Option.filter_eq_some_iff.mp h
    List.mem_filter.mpr ⟨S.adopter_mem v p (List.mem_filter.mp hv).1 hp, ha⟩
  adopter_rank v p h := S.adopter_rank v p (Option.filter_eq_some_iff.mp h).1

theorem restrict_children (alive : α → Bool)
    (hdown : ∀ v p, S.adopter v = some p → alive p = true → alive v = true)
    (x : α) (hx : alive x = true) : (S.restrict alive).children x = S.children x := by
  simp only [Sys.children, Sys.restrict, List.filter_filter]
  refine List.filter_congr fun v _ => Bool.eq_iff_iff.mpr ?_
  simp only [Bool.and_eq_true, decide_eq_true_eq, Option.filter_eq_some_iff, hx, and_true]
  exact ⟨And.left, fun h => ⟨h, hdown v x h hx⟩⟩

theorem mem_restrict_roots (alive : α → Bool) (v : α) : v ∈ (S.restrict alive).roots ↔
    v ∈ S.all ∧ alive v = true ∧ ∀ p, S.adopter v = some p → alive p = false := by
  simp only [Sys.roots, Sys.restrict, List.mem_filter, Option.isNone_iff_eq_none,
    Option.filter_eq_none_iff, Bool.not_eq_true, and_assoc]

end Adopt
