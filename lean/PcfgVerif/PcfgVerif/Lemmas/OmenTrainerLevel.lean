import PcfgVerif.Lemmas.OmenToTables
import PcfgVerif.Lemmas.OmenTables
/-!
# OMEN trainer: `levelOf` over the loaded tables is the trainer's level

Both sides are characterised by when they return `some L` (`levelOf_eq_some_iff`, `trainerLevel_eq_some_iff`); the three
look-ups of `levelOf` over `toTables` are the trainer's three look-ups (`tblLevel_ip`, `tblLevel_ln`, `toTables_transCost`).
-/
namespace Omen

theorem trainerLevel_eq_some_iff (t : TTables) (s : Str) (L : Nat) :
    t.trainerLevel s = some L ↔ t.ngram ≤ s.length ∧ s.length ≤ t.lns.length ∧ s.length - 1 < t.lns.length ∧
      ∃ e c, t.entry (s.take (t.ngram - 1)) = some e ∧
        t.chain (s.take (t.ngram - 1)) (s.drop (t.ngram - 1)) = some c ∧
        t.lns.getD (s.length - 1) 0 + e.ipLevel + c = L := by
  unfold TTables.trainerLevel
  constructor
  · -- along the branches of `trainerLevel`: out of range, then the look-ups; only with all three found is there a level
    intro h
    split at h
    · cases h
    · rename_i hr
      simp only [Bool.or_eq_true, decide_eq_true_eq, not_or, Nat.not_lt] at hr
      split at h
      · rename_i ln e hln he
        split at h
        · rename_i c hc
          obtain ⟨hi, rfl⟩ := List.getElem?_eq_some_iff.1 hln
          exact ⟨hr.1, hr.2, hi, e, c, he, hc, by rw [← List.getElem_eq_getD (h := hi)]; exact Option.some.inj h⟩
        · cases h
      · cases h
  · rintro ⟨h1, h2, hi, e, c, he, hc, rfl⟩
    rw [if_neg (by simp [Nat.not_lt.2 h1, Nat.not_lt.2 h2]), List.getElem?_eq_getElem hi, he, hc, List.getElem_eq_getD 0]

/-- C11 (trainer = guesser's specification): the level the trainer assigns is the level `levelOf`
assigns over the loaded tables — for every string: unknown letters, too short, too long included -/
theorem levelOf_eq_trainerLevel (t : TTables) (hg : t.Good) (s : Str) :
    t.toTables.levelOf (t.ngram - 1) s = t.trainerLevel s := by
  refine Option.ext fun L => ?_
  rw [levelOf_eq_some_iff, trainerLevel_eq_some_iff, toTables_transCost t hg, List.length_drop]
  constructor
  · rintro ⟨hlen, a, b, c, ha, hb, hc, rfl⟩
    have h1 : t.ngram ≤ s.length := Nat.le_of_pred_lt hlen
    obtain ⟨e, he, rfl⟩ := (tblLevel_ip t hg _ _).1 ha
    obtain ⟨hi, rfl⟩ := (tblLevel_ln t hg h1 _).1 hb
    exact ⟨h1, Nat.le_of_pred_lt hi, hi, e, c, he, hc, by rw [Nat.add_comm (t.lns.getD _ _)]⟩
  · rintro ⟨h1, _, hi, e, c, he, hc, rfl⟩
    exact ⟨Nat.sub_one_lt_of_le (Nat.lt_of_lt_of_le Nat.zero_lt_two hg.ngram_ge) h1, _, _, c,
      (tblLevel_ip t hg _ _).2 ⟨e, he, rfl⟩, (tblLevel_ln t hg h1 _).2 ⟨hi, rfl⟩, hc, by rw [Nat.add_comm e.ipLevel]⟩

end Omen
