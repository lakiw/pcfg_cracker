import PcfgVerif.Model.SoftFloat
import PcfgVerif.Model.Prob
/-! Proofs about the binary64 model: monotone rounding, correct rounding (half-ulp bound), 53-bit
significands, closure of [0, 1], and the resulting `PAlg` instance (`sfAlg`).  `roundAt N T` is read
through quotient and remainder of `N` by `T`, the shift through `shiftOf q ≤ s ↔ q < 2 ^ (53 + s)`. -/
namespace Pcfg.SF

theorem bitLen_le_iff {n k : Nat} : bitLen n ≤ k ↔ n < 2 ^ k := by
  unfold bitLen; split
  · next h => simp [h, Nat.two_pow_pos]
  · next h => exact Nat.log2_lt h

theorem shiftOf_le_iff {q s : Nat} : shiftOf q ≤ s ↔ q < 2 ^ (53 + s) :=
  Nat.sub_le_iff_le_add'.trans bitLen_le_iff

theorem shiftOf_mono {a b : Nat} (h : a ≤ b) : shiftOf a ≤ shiftOf b :=
  shiftOf_le_iff.2 (Nat.lt_of_le_of_lt h (shiftOf_le_iff.1 (Nat.le_refl _)))

theorem roundAt_le (N T : Nat) : roundAt N T ≤ N / T + 1 := by
  unfold roundAt; split
  · exact Nat.le_refl _
  · exact Nat.le_succ _

theorem le_roundAt (N T : Nat) : N / T ≤ roundAt N T := by
  unfold roundAt; split
  · exact Nat.le_succ _
  · exact Nat.le_refl _

theorem roundUp_iff (n r T : Nat) : roundUp n r T = true ↔ T < 2 * r ∨ (2 * r = T ∧ n % 2 = 1) := by
  simp only [roundUp, Bool.or_eq_true, Bool.and_eq_true, decide_eq_true_eq, beq_iff_eq]

theorem le_of_roundUp {n r T : Nat} (h : roundUp n r T = true) : T ≤ 2 * r :=
  ((roundUp_iff n r T).1 h).elim Nat.le_of_lt fun e => Nat.le_of_eq e.1.symm

theorem le_of_not_roundUp {n r T : Nat} (h : ¬ roundUp n r T = true) : 2 * r ≤ T :=
  Nat.le_of_not_lt fun hlt => h ((roundUp_iff n r T).2 (.inl hlt))

theorem roundUp_mono {n r r' T : Nat} (h : r ≤ r') (hu : roundUp n r T = true) :
    roundUp n r' T = true := by
  rcases Nat.lt_or_eq_of_le h with hlt | rfl
  · exact (roundUp_iff n r' T).2 (.inl (Nat.lt_of_le_of_lt (le_of_roundUp hu)
      (Nat.mul_lt_mul_of_pos_left hlt (by decide))))
  · exact hu

theorem roundAt_mono (T : Nat) {N1 N2 : Nat} (h : N1 ≤ N2) : roundAt N1 T ≤ roundAt N2 T := by
  rcases Nat.lt_or_eq_of_le (Nat.div_le_div_right (c := T) h) with hlt | he
  · exact Nat.le_trans (roundAt_le N1 T) (Nat.le_trans hlt (le_roundAt N2 T))
  · -- same quotient: the remainder grows, and the decision is monotone in the remainder
    have hr : N1 % T ≤ N2 % T := by
      rw [← Nat.div_add_mod N1 T, ← Nat.div_add_mod N2 T, he] at h
      exact Nat.le_of_add_le_add_left h
    unfold roundAt; rw [he]; split
    · next hu => rw [if_pos (roundUp_mono hr hu)]; exact Nat.le_refl _
    · exact le_roundAt N2 T

/-- correctly rounded: the error is at most half a unit in the last place -/
theorem roundAt_half (N T : Nat) (hT : 0 < T) :
    2 * (N - roundAt N T * T) ≤ T ∧ 2 * (roundAt N T * T - N) ≤ T := by
  -- `N = q * T + r` with `r < T`; rounding down is off by `r`, rounding up by `T - r`
  have hN := Nat.div_add_mod' N T
  have hr := Nat.mod_lt N hT
  unfold roundAt
  generalize N / T = q, N % T = r at hN hr ⊢
  subst hN
  split
  · next hu =>
    rw [Nat.add_mul, Nat.one_mul, Nat.sub_eq_zero_of_le (Nat.add_le_add_left (Nat.le_of_lt hr) _),
      Nat.add_sub_add_left, Nat.mul_sub, Nat.sub_le_iff_le_add, Nat.two_mul T]
    exact ⟨Nat.zero_le _, Nat.add_le_add_left (le_of_roundUp hu) T⟩
  · next hu =>
    rw [Nat.add_sub_cancel_left, Nat.sub_eq_zero_of_le (Nat.le_add_right _ _)]
    exact ⟨le_of_not_roundUp hu, Nat.zero_le _⟩

/-- the rounded significand has at most 53 bits (2^53 itself = 2^52 · 2 is reached by rounding up) … -/
theorem roundAt_shift_le (N D : Nat) : roundAt N (D * 2 ^ shiftOf (N / D)) ≤ 2 ^ 53 := by
  refine Nat.le_trans (roundAt_le N _) (Nat.succ_le_of_lt ?_)
  rw [← Nat.div_div_eq_div_mul, Nat.div_lt_iff_lt_mul (Nat.two_pow_pos _), ← Nat.pow_add]
  exact shiftOf_le_iff.1 (Nat.le_refl _)

/-- … and at least 53 when low bits were shifted out -/
theorem le_roundAt_shift (N D : Nat) (h : 0 < shiftOf (N / D)) :
    2 ^ 52 ≤ roundAt N (D * 2 ^ shiftOf (N / D)) := by
  refine Nat.le_trans ?_ (le_roundAt N _)
  rw [← Nat.div_div_eq_div_mul, Nat.le_div_iff_mul_le (Nat.two_pow_pos _), ← Nat.pow_add]
  -- one bit less would not hold `N / D`
  exact Nat.le_trans (Nat.pow_le_pow_right (by decide) (by omega))
    (Nat.le_of_not_lt (mt shiftOf_le_iff.2 (Nat.not_le.2 (Nat.sub_one_lt (Nat.ne_of_gt h)))))

theorem roundQ_mono (D : Nat) {N1 N2 : Nat} (h : N1 ≤ N2) : roundQ N1 D ≤ roundQ N2 D := by
  unfold roundQ
  rcases Nat.lt_or_eq_of_le (shiftOf_mono (Nat.div_le_div_right (c := D) h)) with hlt | he
  · -- a larger shift: the results are separated by the power of two 2^(52 + s2)
    have h1 := Nat.mul_le_mul_right (2 ^ shiftOf (N1 / D)) (roundAt_shift_le N1 D)
    have h2 := Nat.mul_le_mul_right (2 ^ shiftOf (N2 / D))
      (le_roundAt_shift N2 D (Nat.zero_lt_of_lt hlt))
    rw [← Nat.pow_add] at h1 h2
    exact Nat.le_trans h1 (Nat.le_trans (Nat.pow_le_pow_right (by decide) (by omega)) h2)
  · rw [he]; exact Nat.mul_le_mul_right _ (roundAt_mono _ h)

theorem mul_mono_left (a a' b : Nat) (h : a ≤ a') : mul a b ≤ mul a' b :=
  roundQ_mono _ (Nat.mul_le_mul_right b h)

theorem mul_mono_right (a b b' : Nat) (h : b ≤ b') : mul a b ≤ mul a b' :=
  roundQ_mono _ (Nat.mul_le_mul_left a h)

/-- `fl(c / t)` is monotone in the numerator: a larger count never gets a smaller probability -/
theorem ratio_mono (t : Nat) {c1 c2 : Nat} (h : c1 ≤ c2) : ratio c1 t ≤ ratio c2 t :=
  roundQ_mono _ (Nat.mul_le_mul_right _ h)

theorem roundAt_of_dvd {N T : Nat} (hT : 0 < T) (h : T ∣ N) : roundAt N T = N / T :=
  if_neg fun hu => by
    have := le_of_roundUp hu
    rw [Nat.mod_eq_zero_of_dvd h] at this
    exact Nat.not_lt.2 this hT

/-- powers of two are fixed points: rounding never crosses one -/
theorem roundTo_pow (k j : Nat) : roundTo (2 ^ (k + j)) k = 2 ^ j := by
  have hs : shiftOf (2 ^ j) ≤ j :=
    shiftOf_le_iff.2 (Nat.pow_lt_pow_right (by decide) (Nat.lt_add_of_pos_left (by decide)))
  simp only [roundTo, roundQ, Nat.pow_div (Nat.le_add_right k j) (by decide : 0 < 2),
    Nat.add_sub_cancel_left]
  generalize shiftOf (2 ^ j) = s at hs
  have hks := Nat.add_le_add_left hs k
  rw [← Nat.pow_add, roundAt_of_dvd (Nat.two_pow_pos _) (Nat.pow_dvd_pow 2 hks),
    Nat.pow_div hks (by decide), Nat.add_sub_add_left, ← Nat.pow_add, Nat.sub_add_cancel hs]

/-- probabilities stay probabilities: the product of two values ≤ 1.0 is ≤ 1.0 (no overflow) -/
theorem mul_le_one (a b : Nat) (ha : a ≤ one) (hb : b ≤ one) : mul a b ≤ one := by
  have h : a * b ≤ 2 ^ (unitExp + unitExp) := by
    rw [Nat.pow_add]; exact Nat.mul_le_mul ha hb
  exact Nat.le_trans (roundQ_mono (2 ^ unitExp) h) (Nat.le_of_eq (roundTo_pow unitExp unitExp))

theorem mul_zero (b : Nat) : mul 0 b = 0 := by
  simp [mul, roundTo, roundQ, roundAt, roundUp]

end Pcfg.SF

namespace Pcfg

/-- **IEEE-754 binary64 on finite non-negative values is a `PAlg`**: `≤` is a total order on the units and the
correctly rounded product is monotone in both arguments.  This discharges, for the model `SF.mul`, the one
floating-point fact the queue theorems need; that `SF.mul` *is* CPython's `*` on such doubles is checked
bit-for-bit by the correspondence (`fp.mul`). -/
def sfAlg : PAlg Nat where
  le := fun a b => decide (a ≤ b)
  mul := SF.mul
  le_refl := by intro a; simp
  le_trans := by intro a b c h1 h2; simp at *; omega
  le_total := by intro a b; simp; omega
  mul_mono_left := by intro a a' b h; simp at *; exact SF.mul_mono_left a a' b h
  mul_mono_right := by intro a b b' h; simp at *; exact SF.mul_mono_right a b b' h

end Pcfg

