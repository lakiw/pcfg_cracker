import PcfgVerif.Lemmas.ScoreItems
/-! C13, the promise: from `parse_labelled` through the scorer's items (`ScoreItems`) -/
namespace Pcfg.Detect
open Pcfg.ScoreB

/-- **the promise**: if the scorer gives a password a non-zero probability, the guesser's grammar has a
base structure and one group per position such that (1) the pre-terminal's probability — the
guesser's own `_find_prob` product — equals the score, and (2) the password is one of the guesses of
that pre-terminal.  `le` is not constrained: `probFold` uses `mul` only, `le` is there to form a `POps`. -/
theorem score_promise {P : Type} (M : CMon P) (le : P → P → Bool) (gt : P → P → Bool) (limit : P)
    (U : UEnv) (upper : Char → List Char) (cfg : MWCfg) (t : MWTable) (pw : CPs) (hne : pw ≠ [])
    (hl : LenPres U pw) (hsc : ScalarCPs pw) (hcase : CaseInvAll U upper pw)
    (g : ScoreG P) (V : GView P) (hag : Agree M.zero g V) (omenOk : Bool)
    (hnz : (score M.mul gt M.one M.zero limit g (parse U cfg t pw) omenOk).prob ≠ M.zero) :
    ∃ (reps : List String) (bp : P) (idx : List Nat), (reps, bp) ∈ V.bases ∧ idx.length = reps.length ∧
      toStr pw ∈ productSpec upper V.E [] (mkPT reps idx) ∧
      probFold ⟨le, M.mul⟩ bp (reps.map V.colP) idx =
        (score M.mul gt M.one M.zero limit g (parse U cfg t pw) omenOk).prob := by
  obtain ⟨he, hw, hsup⟩ := score_supported hnz
  rw [score_prob he hw hsup] at hnz ⊢
  obtain ⟨its, hperm, hok, hlab, hcat⟩ := parse_items U cfg t pw hne hl hsup
  have hlabs := parse_labels U cfg t pw hne hl
  rw [parse_structure] at hnz ⊢
  -- all that is needed of the parse is known
  generalize parse U cfg t pw = p at hnz hperm hlab hlabs ⊢
  -- the score is the product over the items' lookups, times the base structure's; all are non-zero
  rw [prodL_perm M (hperm.map _)] at hnz ⊢
  obtain ⟨hnzI, hnzB⟩ := M.mul_ne_zero hnz
  have hall := (foldl_mul_ne_zero M hnzI).2
  -- so every item has its piece in the guesser's grammar, and the pieces spell the password
  obtain ⟨pieces, hin, htext, hpt, hprob⟩ := built_all M.zero U upper g V its fun x hx =>
    item_built M.zero U upper g V hag pw hsc hcase x (hok x hx).1 (hok x hx).2
      fun y hy => hall _ (List.mem_map_of_mem (List.mem_flatMap.mpr ⟨x, hx, hy⟩))
  rw [hlab] at hpt
  rw [hcat] at htext
  -- the base structure
  obtain ⟨_, hmem, (rfl : _ = (p.sections.map lab).flatMap insC)⟩ := hag.base (p.sections.map lab) hlabs hnzB
  refine ⟨_, _, (pieces.flatMap Piece.pt).map (·.2), hmem, ?_, ?_, ?_⟩
  · rw [← hpt, List.length_map, List.length_map]
  · have h := password_in_productSpec upper (isUp U) V.E pieces [] (fun q hq => (hin q hq).1)
      (fun q hq => (hin q hq).2)
    rwa [List.nil_append, htext, List.zip_of_prod hpt rfl] at h
  · rw [← hpt, probFold_entries _ V.colP _ _ _ hprob, foldl_mul M, M.mul_comm]

end Pcfg.Detect
