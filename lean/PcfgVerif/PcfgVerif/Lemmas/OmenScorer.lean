import PcfgVerif.Model.OmenScorerFiles
import PcfgVerif.Lemmas.OmenToTables
/-!
# OMEN: the scorer computes the trainer's level

`scorerLevel` walks a window over the string where `find_omen_level` keeps a state: the first window is the
trainer's state with the next letter, and behind it the walk is the walk over the string without its first letter
(`scorerChain_cons`, `scorerChain_eq_chain`).  Over the files, `_load_omen` fills each dictionary by assignments, so a
key answers with its last line; in the trainer's files the lines under a key all carry the value the trainer's own
tables give for it (`mem_ipLines`, `mem_cpLines`), so which line is last does not matter (`assocGet_foldl_set`,
`scorer_from_files`).
-/
namespace Omen

theorem scorerCp_snoc (t : TTables) (ip : Str) (c : Char) :
    t.scorerCp (ip ++ [c]) = (t.entry ip).bind (·.letter c) := by
  unfold TTables.scorerCp
  rw [List.dropLast_concat, List.getLast?_concat]
  cases t.entry ip <;> rfl

/-- the walk reads nothing before its window: without the first letter it is the same walk, one position down -/
theorem scorerChain_cons (t : TTables) (a : Char) (s : Str) (fuel endPos : Nat) (h : t.ngram ≤ endPos) :
    t.scorerChain (a :: s) fuel (endPos + 1) = t.scorerChain s fuel endPos := by
  induction fuel generalizing endPos with
  | zero => rfl
  | succ f ih =>
    rw [TTables.scorerChain, TTables.scorerChain, ih _ (Nat.le_succ_of_le h), Nat.succ_sub h, List.drop_succ_cons]
    simp only [List.length_cons, Nat.add_le_add_iff_right]

/-- started on the first window of `ip ++ body`, the walk is the trainer's from the state `ip` over `body` -/
theorem scorerChain_eq_chain (t : TTables) (hn : 2 ≤ t.ngram) (body : List Char) (fuel : Nat) (ip : Str)
    (hip : ip.length + 1 = t.ngram) (hf : body.length ≤ fuel) :
    t.scorerChain (ip ++ body) fuel t.ngram = t.chain ip body := by
  induction body generalizing fuel ip with
  | nil =>
    cases fuel with
    | zero => rfl
    | succ f => rw [TTables.scorerChain, if_neg (by rw [List.append_nil, ← hip]; exact Nat.not_succ_le_self _)]; rfl
  | cons c cs ih =>
    obtain ⟨f, rfl⟩ := Nat.exists_eq_add_one.2 (Nat.lt_of_lt_of_le (Nat.succ_pos _) hf)
    obtain ⟨a, ip0, rfl⟩ := List.exists_cons_of_length_pos (Nat.lt_of_succ_lt_succ (hip ▸ hn))
    -- the first window is `ip ++ [c]`; behind it the walk goes on over the string without `a`, by `ih`
    rw [TTables.scorerChain, if_pos (by rw [← hip, List.length_append]; exact Nat.add_le_add_left (Nat.le_add_left 1 _) _),
      Nat.sub_self, List.drop_zero, List.append_cons, List.take_left' (List.length_append.trans hip), scorerCp_snoc,
      List.cons_append, List.cons_append, scorerChain_cons t a _ f _ (Nat.le_refl _),
      ih f (ip0 ++ [c]) (by rw [List.length_append]; exact hip) (Nat.le_of_succ_le_succ hf), TTables.chain]
    cases t.entry (a :: ip0) <;> rfl

/-- C11 (trainer = scorer): the scorer's dictionary walk computes the trainer's level for every string -/
theorem scorerLevel_eq_trainerLevel (t : TTables) (hn : 2 ≤ t.ngram) (s : Str) :
    t.scorerLevel s = t.trainerLevel s := by
  unfold TTables.scorerLevel TTables.trainerLevel
  split
  · rfl
  · rename_i hc
    have hlen : t.ngram ≤ s.length := Nat.le_of_not_lt fun h => hc (by simp [h])
    -- in range the two differ in the walk only; `s` is `s.take (n - 1) ++ s.drop (n - 1)`
    rw [← scorerChain_eq_chain t hn _ (s.length + 1) _
        (by rw [List.length_take_of_le (Nat.le_trans (Nat.sub_le _ _) hlen), Nat.sub_add_cancel (Nat.le_of_succ_le hn)])
        (Nat.le_succ_of_le (List.drop_sublist _ s).length_le), List.take_append_drop]

theorem mem_ipLines (t : TTables) (hk : (t.entries.map (·.key)).Nodup) (a : Nat) (k : Str) :
    (a, k) ∈ t.ipLines ↔ (t.entry k).map (·.ipLevel) = some a := by
  simp only [TTables.ipLines, List.mem_map, Prod.mk.injEq, Option.map_eq_some_iff]
  constructor
  · rintro ⟨e, he, rfl, rfl⟩; exact ⟨e, entry_of_mem hk he, rfl⟩
  · rintro ⟨e, he, rfl⟩; exact ⟨e, (entry_some he).1, rfl, (entry_some he).2⟩

theorem mem_cpLines_entry {t : TTables} {ln : NLine} :
    ln ∈ t.cpLines ↔ ∃ e ∈ t.entries, ∃ p ∈ e.next, ln = (p.2, e.key ++ [p.1]) := by
  simp only [TTables.cpLines, List.mem_flatMap, List.mem_map, eq_comm]

theorem mem_cpLines (t : TTables) (hg : t.Good) (l : Nat) (gram : Str) :
    (l, gram) ∈ t.cpLines ↔ t.scorerCp gram = some l := by
  rw [mem_cpLines_entry]
  constructor
  · rintro ⟨e, he, p, hp, ⟨⟩⟩
    rw [scorerCp_snoc, entry_of_mem hg.keys_nodup he]
    exact (TEntry.letter_eq_some_iff (hg.letters_nodup e he)).2 hp
  · intro h
    unfold TTables.scorerCp at h
    split at h
    · rename_i e c he hc
      obtain ⟨hm, hek⟩ := entry_some he
      obtain ⟨ys, rfl⟩ := List.getLast?_eq_some_iff.1 hc
      exact ⟨e, hm, (c, l), (TEntry.letter_eq_some_iff (hg.letters_nodup e hm)).1 h,
        by rw [hek, List.dropLast_concat]⟩
    · cases h

theorem scorer_ip (t : TTables) (hk : (t.entries.map (·.key)).Nodup) (k : Str) :
    assocGet (loadScorer t.ipLines t.cpLines t.lnLines).ip k = (t.entry k).map (·.ipLevel) :=
  assocGet_foldl_set (mem_ipLines t hk) k

theorem scorer_cp (t : TTables) (hg : t.Good) (gram : Str) :
    assocGet (loadScorer t.ipLines t.cpLines t.lnLines).cp gram = t.scorerCp gram :=
  assocGet_foldl_set (mem_cpLines t hg) gram

theorem scorer_chain (t : TTables) (hg : t.Good) (s : Str) (fuel endPos : Nat) :
    (loadScorer t.ipLines t.cpLines t.lnLines).chain t.ngram s fuel endPos = t.scorerChain s fuel endPos := by
  induction fuel generalizing endPos with
  | zero => rfl
  | succ n ih => rw [STabs.chain, TTables.scorerChain, scorer_cp t hg, ih]; rfl

/-- the `ngram` the scorer reads off the first `CP.level` line -/
theorem scorer_ngram (t : TTables) (hg : t.Good) :
    (loadScorer t.ipLines t.cpLines t.lnLines).ngram = if t.cpLines = [] then none else some t.ngram := by
  show t.cpLines.head?.map (·.2.length) = _
  cases hc : t.cpLines with
  | nil => rfl
  | cons ln r =>
    obtain ⟨e, he, p, _, rfl⟩ := mem_cpLines_entry.1 (hc ▸ List.mem_cons_self : ln ∈ t.cpLines)
    rw [if_neg (List.cons_ne_nil _ _)]
    simp only [List.head?_cons, Option.map_some, List.length_append, hg.key_len e he]
    exact congrArg some (Nat.sub_add_cancel (Nat.le_of_succ_le hg.ngram_ge))

/-- `OmenScorer.parse` on the dictionaries `_load_omen` builds from the trainer's files is `scorerLevel`, for every string
(and so the trainer's level: `scorerLevel_eq_trainerLevel`) -/
theorem scorer_from_files (t : TTables) (hg : t.Good) (s : Str) :
    (loadScorer t.ipLines t.cpLines t.lnLines).parse s = t.scorerLevel s := by
  unfold STabs.parse
  rw [scorer_ngram t hg, TTables.scorerLevel]
  by_cases hc : t.cpLines = []
  · -- no `CP.level` line: `cp` is empty, and the walk of a string long enough fails at its first window
    rw [if_pos hc]
    dsimp only
    split
    · rfl
    · rename_i hb
      rw [TTables.scorerChain, if_pos (Nat.le_of_not_lt fun h => hb (by simp [h])), ← scorer_cp t hg, hc]
      cases t.lns[s.length - 1]? <;> cases t.entry (s.take (t.ngram - 1)) <;> rfl
  · rw [if_neg hc]
    dsimp only
    rw [scorer_ip t hg.keys_nodup, scorer_chain t hg, show (loadScorer t.ipLines t.cpLines t.lnLines).ln = t.lns from rfl]
    cases t.lns[s.length - 1]? <;> cases t.entry (s.take (t.ngram - 1)) <;> rfl

end Omen
