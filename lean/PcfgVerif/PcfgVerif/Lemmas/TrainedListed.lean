import PcfgVerif.Lemmas.TrainedSections
import PcfgVerif.Lemmas.ScoreLookups
/-! `AllListed` for every password of the training list: each tally of the password's own parse is at least one, so what the scorer
finds for it in the lists written from the counters of the whole list is not zero. -/
namespace Pcfg.Trainer
open Pcfg.Detect

theorem listed_len (U : UEnv) (cfg : MWCfg) (pws : List CPs) (pw : CPs) (hmem : pw ∈ pws) (cov : Rat) (ch : Char)
    (h1 : ch ≠ 'Y') (h2 : ch ≠ 'X') (field : Counters → LenCtr) (items : Parsed → List CPs)
    (hf : ∀ c p, field (c.update p) = updateLenIndexed (field c) (items p)) (h0 : field {} = [])
    (hd : ∀ c, (cats c).lookup ch = some (field c)) (v : CPs) (hv : v ∈ items (parse U cfg (pass1 U cfg pws) pw)) :
    ScoreG.look (scoreGOf cov pws.length (train U cfg pws)) 0 (lbl ch v.length) v ≠ 0 := by
  rw [← scName_lbl ch _ h1 h2]
  exact listed_of_count cov _ _ ch _ (hd _) (train_lpos U cfg field items hf h0 pws) _ v
    (train_len_hit U cfg field items hf h0 pws pw hmem v hv)

theorem lpos_single (t : MWTable) (h : CtrPos t) : LPos [(1, t)] :=
  List.forall_mem_singleton.mpr h

/-- **every password of the training list is listed**: with the counters of the whole list (`train`), written out by
`calculate_probabilities` with coverage in (0, 1], each segment of the password's parse and — when the parse is supported —
its base structure are found by the scorer with a non-zero probability -/
theorem trained_all_listed (U : UEnv) (cfg : MWCfg) (pws : List CPs) (pw : CPs) (hmem : pw ∈ pws)
    (cov : Rat) (h0 : 0 < cov) (h1 : cov ≤ 1)
    (hs : (parse U cfg (pass1 U cfg pws) pw).supported = true) :
    AllListed 0 (scoreGOf cov pws.length (train U cfg pws)) (parse U cfg (pass1 U cfg pws) pw) := by
  exact {
    walks := listed_len U cfg pws pw hmem cov 'K' (by decide) (by decide) (·.keyboard) (·.walks) (fun _ _ => rfl) rfl (fun _ => rfl)
    alphas := listed_len U cfg pws pw hmem cov 'A' (by decide) (by decide) (·.alpha) (·.alphas) (fun _ _ => rfl) rfl (fun _ => rfl)
    masks := listed_len U cfg pws pw hmem cov 'C' (by decide) (by decide) (·.masks) (·.masks) (fun _ _ => rfl) rfl (fun _ => rfl)
    digits := listed_len U cfg pws pw hmem cov 'D' (by decide) (by decide) (·.digits) (·.digits) (fun _ _ => rfl) rfl (fun _ => rfl)
    others := listed_len U cfg pws pw hmem cov 'O' (by decide) (by decide) (·.other) (·.others) (fun _ _ => rfl) rfl (fun _ => rfl)
    years := fun v hv => scLbl_Y ▸ listed_of_count cov _ _ 'Y' _ rfl
      (lpos_single _ (train_plain_pos U cfg (·.years) (·.years) (fun _ _ => rfl) rfl pws)) 1 v
      (train_plain_hit U cfg (·.years) (·.years) (fun _ _ => rfl) rfl pws pw hmem v hv)
    contexts := fun v hv => scLbl_X ▸ listed_of_count cov _ _ 'X' _ rfl
      (lpos_single _ (train_plain_pos U cfg (·.context) (·.contexts) (fun _ _ => rfl) rfl pws)) 1 v
      (train_plain_hit U cfg (·.context) (·.contexts) (fun _ _ => rfl) rfl pws pw hmem v hv)
    base := by
      rw [look_scoreGOf_B]
      obtain ⟨k, hk⟩ := train_base_hit U cfg pws pw hmem hs
      exact baseList_ne_zero cov h0 h1 _ (List.length_pos_of_mem hmem) _ (train_base_pos U cfg pws) _ k hk }

end Pcfg.Trainer

namespace Pcfg.C03

/-- exact rationals as the probability monoid (no zero divisors) -/
def ratCMon : Detect.CMon Rat where
  mul := (· * ·)
  one := 1
  zero := 0
  mul_comm := Rat.mul_comm
  mul_assoc := Rat.mul_assoc
  one_mul := Rat.one_mul
  zero_mul := Rat.zero_mul

end Pcfg.C03
