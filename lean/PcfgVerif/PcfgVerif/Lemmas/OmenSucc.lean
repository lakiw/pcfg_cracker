import PcfgVerif.Lemmas.OmenNext
/-!
# OMEN: `nextTree` is the successor in `allTrees`

An element of `allTrees (len + 2)` is followed by the rest of its index block, then of its level block, then by the
lower level blocks (`below_split`, `idxBlock_split`); `descend` returns the head of exactly that (`descend_eq`),
being the search loops of `_fill_out_parse_tree` entered in the middle (`descend_eq_fill`).
-/
namespace Omen

theorem below_split {β : Type} {f : Nat → List β} {n : Nat} {pre suf : List β} {t : β}
    (h : below f n = pre ++ t :: suf) : ∃ l, l < n ∧ ∃ p s1, f l = p ++ t :: s1 ∧ suf = s1 ++ below f l := by
  induction n generalizing pre with
  | zero => simp at h
  | succ n ih =>
    rw [below_succ] at h
    rcases append_split h with ⟨s1, h1, h2⟩ | ⟨p2, _, h2⟩
    · exact ⟨n, Nat.lt_succ_self _, pre, s1, h1, h2⟩
    · obtain ⟨l, hl, r⟩ := ih h2
      exact ⟨l, Nat.lt_succ_of_lt hl, r⟩

/-- what follows a tree of an index block: the rest of the block its tail stands in, then the index block from `k + 1` on
(`c` is `cs[k]`; no proof needs that) -/
theorem idxBlock_split {m : Model} {len : Nat} {ip : Str} {rem l : Nat}
    {cs : List Char} {i : Nat} {pre suf : List (List Item)} {t : List Item}
    (h : m.idxBlock len ip rem l i cs = pre ++ t :: suf) :
    ∃ k c p t' s, m.allTrees len (nextIp ip c) rem = p ++ t' :: s ∧ t = ⟨ip, l, i + k⟩ :: t' ∧
      suf = s.map (⟨ip, l, i + k⟩ :: ·) ++ m.idxBlock len ip rem l (i + k + 1) (cs.drop (k + 1)) := by
  obtain ⟨z1, ⟨c, j⟩, z2, p, s, hz, hb, rfl⟩ := flatMap_split h
  obtain ⟨cs1, cs', rfl, rfl, hz2⟩ := List.zipIdx_eq_append_iff.1 hz
  obtain ⟨_, cs2, rfl, hcj, rfl⟩ := List.zipIdx_eq_cons_iff.1 hz2.symm
  cases hcj
  obtain ⟨p', t', s', h1, rfl, rfl⟩ := map_split hb
  exact ⟨cs1.length, c, p', t', s', h1, rfl, by rw [List.drop_length_add_append]; rfl⟩

theorem allTrees_props (m : Model) (len : Nat) (ip : Str) (target : Nat) (tr : List Item)
    (h : tr ∈ m.allTrees len ip target) :
    tr.length = len ∧ lsum tr = target ∧ ∃ it rest, tr = it :: rest ∧ it.ip = ip := by
  induction len generalizing ip target tr with
  | zero => cases h
  | succ len ih =>
    cases len with
    | zero =>
      rw [allTrees_one] at h
      split at h
      · obtain ⟨i, _, rfl⟩ := List.mem_map.1 h
        exact ⟨rfl, Nat.add_zero _, _, _, rfl, rfl⟩
      · cases h
    | succ len =>
      rw [allTrees_succ_succ] at h
      simp only [List.mem_flatMap, List.mem_map, List.mem_reverse, List.mem_range] at h
      obtain ⟨l, hl, ⟨c, i⟩, _, t', h2, rfl⟩ := h
      obtain ⟨h3, h4, _⟩ := ih _ _ _ h2
      have hlt : l ≤ target := (Nat.le_min.1 (Nat.le_of_lt_succ hl)).1
      exact ⟨congrArg (· + 1) h3, by rw [lsum_cons, h4]; exact Nat.add_sub_of_le hlt, _, _, rfl, rfl⟩

section Descend
variable (m : Model) (lastIp elemIp : Str) (hd : elemIp.dropLast = lastIp.drop 1) (reqLen reqLevel : Nat)

include hd in
/-- the index loop of `next_guess` is the index loop of `_fill_out_parse_tree` (`elemIp[:-1] = lastIp[1:]`) -/
theorem tryIdxs_eq_fillIdxs (tgt l : Nat) (cs : List Char) (i : Nat) :
    (m.tryIdxs elemIp reqLen tgt i cs).map (fun r => (⟨lastIp, l, r.1⟩ : Item) :: r.2) =
      fillIdxs (fun ip' => m.fill reqLen ip' tgt) lastIp l i cs := by
  induction cs generalizing i with
  | nil => rfl
  | cons c cs ih =>
    rw [Model.tryIdxs, fillIdxs, hd, nextIp, ← ih]
    cases m.fill reqLen (lastIp.drop 1 ++ [c]) tgt <;> rfl

include hd in
/-- the level descent of `next_guess` is the search of `_fill_out_parse_tree` entered in the middle: its index loop on
what is left of level `dl`, then its level loop from the next level down -/
theorem descend_eq_fill : ∀ fuel dl i,
    (m.descend lastIp elemIp reqLen reqLevel (fuel + 1) dl i).map (fun r => (⟨lastIp, r.1, r.2.1⟩ : Item) :: r.2.2) =
      (fillIdxs (fun ip' => m.fill reqLen ip' (reqLevel - dl)) lastIp dl i ((m.chars lastIp dl).drop i)).or
        (if dl = 0 then none else m.fillLevels (m.fill reqLen) lastIp reqLevel fuel (dl - 1))
  | fuel, dl, i => by
    rw [Model.descend, ← tryIdxs_eq_fillIdxs m lastIp elemIp hd reqLen (reqLevel - dl) dl]
    cases m.tryIdxs elemIp reqLen (reqLevel - dl) i ((m.chars lastIp dl).drop i) with
    | some r => rfl
    | none =>
      simp only [Option.map_none, Option.none_or]
      split
      · rfl
      · match fuel with
        | 0 => cases m.findCp lastIp (dl - 1) 0 <;> rfl
        | fuel + 1 =>
          rw [Model.fillLevels]
          cases hfc : m.findCp lastIp (dl - 1) 0 with
          | none => rfl
          | some r =>
            obtain ⟨cs, l⟩ := r
            dsimp only
            rw [descend_eq_fill fuel l 0, List.drop_zero, chars_of_some (findCp_some hfc).2.2.1]
            cases fillIdxs (fun ip' => m.fill reqLen ip' (reqLevel - l)) lastIp l 0 cs <;> rfl

include hd in
theorem descend_eq (hne : m.NE) (dl i : Nat) (hM : dl ≤ m.maxLevel) :
    (m.descend lastIp elemIp reqLen reqLevel (dl + 1) dl i).map (fun r => (⟨lastIp, r.1, r.2.1⟩ : Item) :: r.2.2) =
      (m.idxBlock reqLen lastIp (reqLevel - dl) dl i ((m.chars lastIp dl).drop i) ++
        below (m.lvlBlock reqLen lastIp reqLevel) dl).head? := by
  rw [descend_eq_fill m lastIp elemIp hd, List.head?_append,
    fillIdxs_eq m reqLen lastIp (reqLevel - dl) dl _ fun ip' => fill_eq_head m hne ..]
  congr 1
  cases dl with
  | zero => rfl
  | succ k =>
    rw [if_neg (Nat.succ_ne_zero k), Nat.add_sub_cancel,
      fillLevels_eq m reqLen lastIp reqLevel _ (fun ip' tg => fill_eq_head m hne ..) (k + 1) k
        (Nat.lt_succ_of_le (Nat.min_le_left ..)),
      Nat.min_eq_left (Nat.le_of_succ_le hM)]

end Descend

theorem nextTree_walks (m : Model) (hne : m.NE) (len : Nat) (ip : Str) (target : Nat) :
    Walks m.nextTree (m.allTrees len ip target) := by
  rw [funext (nextTree_eq_specNext m)]
  induction len generalizing ip target with
  | zero => intro pre t suf h; simp [Model.allTrees] at h
  | succ len ih =>
    cases len with
    | zero =>
      rw [allTrees_one]
      split
      · refine Walks.of_getElem? fun i t ht => ?_
        obtain ⟨hi, rfl⟩ := List.getElem?_eq_some_iff.1 ht
        rw [List.getElem_map, List.getElem_range, List.getElem?_map, Model.specNext, Model.rechoose]
        by_cases hp : i + 1 < (m.chars ip target).length
        · rw [if_pos hp, List.getElem?_range hp]; rfl
        · rw [if_neg hp, List.getElem?_eq_none (by rw [List.length_range]; exact Nat.le_of_not_lt hp)]; rfl
      · intro pre t suf h; simp at h
    | succ len =>
      intro pre t suf h
      rw [allTrees_below] at h
      obtain ⟨l, hl, p, s1, h1, rfl⟩ := below_split h
      obtain ⟨hlt, hlM⟩ := Nat.le_min.1 (Nat.le_of_lt_succ hl)
      obtain ⟨k, c, p', t', s, h4, rfl, rfl⟩ := idxBlock_split h1
      obtain ⟨hlen, hsum, it, rest, rfl, hip⟩ := allTrees_props m _ _ _ _ (h4 ▸ List.mem_append_right _ (List.mem_cons_self ..))
      -- `descend` finds the head of what follows the block of the tail: the rest of the level block, then the lower levels
      have hd := descend_eq m ip it.ip (by rw [hip, nextIp, List.dropLast_concat]) (len + 1) target hne l (k + 1) hlM
      rw [Model.specNext, ih _ _ _ _ _ h4, Model.rechoose, Nat.succ.inj hlen, hsum, Nat.sub_add_cancel hlt]
      simp only [Nat.zero_add, hd, List.append_assoc, List.head?_append, List.head?_map]

theorem enumFrom_suffix (m : Model) (suf pre : List (List Item)) (fuel : Nat)
    (hw : Walks m.nextTree (pre ++ suf)) (hf : suf.length < fuel) : m.enumFrom fuel suf.head? = suf := by
  induction suf generalizing pre fuel with
  | nil => cases fuel <;> rfl
  | cons t suf ih =>
    cases fuel with
    | zero => cases hf
    | succ fuel =>
      rw [List.head?_cons, Model.enumFrom, hw pre t suf rfl,
        ih (pre ++ [t]) fuel (by rwa [List.append_assoc]) (Nat.lt_of_succ_lt_succ hf)]

end Omen
