import PcfgVerif.Model.Session
/-!
# Lemmas about the session state machine (C12 / C15)

Every branch of `mainStep` and of `kbdStep` returns a record update of the old state.  `fun_cases` splits a goal about a
step into these branches, numbered in the order of the definition, and puts the record update in place of the step; a
statement about fields the branch does not write is then the old one up to unfolding, so the invariant `Inv` is carried
over a step by a record update of its old proof that names the fields touched (`Inv.step`, `Inv.kbd`); the conservation
law `Inv.conserve` is the one real case analysis.  Then: what `Inv` says of a state, what it says when no `q` was read
(`NQ`, `Inv.no_quit`), and the measure `cost`.

The branches of `mainStep`: 1 finished, 2 exited; at the loop head 3 the queue is empty, 4 the quit test fires, 5 a plain
unit without lines is popped, 6 a plain unit, 7 a Markov unit; inside a plain unit 8 no line left, 9 the last line,
10 a line with more to come; inside a Markov level 11 no line left, 12 a line printed and `shouldExit` found set,
13 a line printed.  Of `kbdStep`: 1 dead; at `input()` 2 blocked, 3 a line, 4 EOF, 5 an error; holding a line 6 the main
actor has finished, 7 has exited, 8 the status report fails, 9 the line is `q`, 10 any other line.
-/
namespace Pcfg.Sess
open Pcfg.Generated.Session

/-- what the generated source says -/
theorem source_facts : Generated.Session.quitSrc = .shouldExit ∧ Generated.Session.removesOmenOption = true ∧
    Generated.Session.keepsQuitOnStatusFailure = true := by
  decide

theorem keepsQuit_eq : keepsQuitOnStatusFailure = true := source_facts.2.2

theorem quitTest_eq (s : St) : quitTest s = s.shouldExit := by
  simp only [quitTest, source_facts.1]

theorem run_nil (us : List Unit') (s : St) : run us s [] = s := rfl
theorem run_cons (us : List Unit') (s : St) (a : Actor) (σ : List Actor) :
    run us s (a :: σ) = run us (step us s a) σ := rfl

variable {us : List Unit'} {f : Files} {s : St}

theorem fullStream_drop_none (us : List Unit') (i : Nat) (h : us[i]? = none) :
    fullStream (us.drop i) = [] := by
  rw [List.drop_eq_nil_of_le (List.getElem?_eq_none_iff.mp h)]
  rfl

theorem fullStream_drop_some (us : List Unit') (i : Nat) (u : Unit') (h : us[i]? = some u) :
    fullStream (us.drop i) = u.lines ++ fullStream (us.drop (i + 1)) := by
  obtain ⟨hi, rfl⟩ := List.getElem?_eq_some_iff.mp h
  unfold fullStream
  rw [List.drop_eq_getElem_cons hi, List.flatMap_cons]

/-- the main loop's quit test did not fire -/
theorem shouldExit_of_not_quitTest (h : ¬quitTest s = true) : s.shouldExit = false := by
  rwa [quitTest_eq, Bool.not_eq_true] at h

theorem run_induct (us : List Unit') (P : St → Prop) (hm : ∀ {s}, P s → P (mainStep us s))
    (hk : ∀ {s}, P s → P (kbdStep s)) : ∀ (σ : List Actor) (s : St), P s → P (run us s σ) := by
  intro σ
  induction σ with
  | nil => intro s h; exact h
  | cons a σ ih =>
    intro s h
    apply ih
    cases a
    · exact hm h
    · exact hk h

def Main.inUnit : Main → Bool
  | .plain .. | .omen .. => true
  | _ => false

/-- inside the Markov level restored from the `.omn` file -/
def Main.restored : Main → Bool
  | .omen _ _ r => r
  | _ => false

/-- what a session started from the files `f` still has to print: the rest of an interrupted Markov
level (if the save file asks for it), then everything from the saved position on -/
def remaining (us : List Unit') (f : Files) : List Line :=
  (if f.omenOpt then f.omn.getD [] else []) ++ fullStream (us.drop (f.savPos.getD 0))

/-- the pickled rest of a Markov level that was quit in this session -/
def omenRest (s : St) : List Line := if s.omenExit then s.files.omn.getD [] else []

/-- what is still owed in state `s`: printed by this session if it is not quit, or by the session
resumed from the files it leaves -/
def pending (us : List Unit') (s : St) : List Line :=
  match s.main with
  | .loopHead i => omenRest s ++ fullStream (us.drop i)
  | .plain i rest => rest ++ fullStream (us.drop i)
  | .omen i rest _ => rest ++ fullStream (us.drop i)
  | .finished => omenRest s
  | .exited => remaining us s.files

structure Inv (us : List Unit') (f : Files) (s : St) : Prop where
  /-- nothing is lost and nothing repeated -/
  outp : s.out ++ pending us s = remaining us f
  oe_se : s.omenExit = true → s.shouldExit = true
  se_qs : s.shouldExit = true → s.quitSeen = true
  got_qs : ∀ b, s.kbd = .gotLine "q" b → s.quitSeen = true
  /-- a level that was quit is left at once: `omen_exit` is only ever seen between units -/
  unit_oe : s.main.inUnit = true → s.omenExit = false
  /-- outside the restored level the save file asks for a remainder only if it did so, without an `.omn` file,
  from the start -/
  opt : s.main.restored = false → s.omenExit = false → s.files.omenOpt = true →
      s.files.omn = none ∧ f.omenOpt = true ∧ f.omn = none
  exited : s.main = .exited → s.quitSeen = true ∧ s.files.savPos.isSome = true

theorem Inv.init (us : List Unit') (f : Files) (stdin : List Ev) : Inv us f (initLoad f stdin) := by
  obtain ⟨pos, opt, omn⟩ := f
  cases opt <;> cases omn <;> constructor <;>
    simp [initLoad, pending, remaining, omenRest, Main.restored]

theorem Inv.not_quit (h : Inv us f s) (hq : s.shouldExit = false) : s.omenExit = false := by
  cases ho : s.omenExit with
  | false => rfl
  | true => rw [h.oe_se ho] at hq; cases hq

/-- every main step moves a line from what is owed to what is printed, or moves nothing -/
theorem Inv.conserve (h : Inv us f s) :
    (mainStep us s).out ++ pending us (mainStep us s) = s.out ++ pending us s := by
  -- `caseN` is branch N of `mainStep`: the list is at the head of the file
  fun_cases mainStep us s
  case case1 | case2 => rfl
  case case3 hm hu => simp [pending, hm, omenRest, fullStream_drop_none us _ hu]
  case case4 i hm _ _ _ =>
    -- the files written ask for the `.omn` remainder iff the level was quit in this session: an older option is stale
    have hstale : omenRest s = if s.files.omenOpt || s.omenExit then s.files.omn.getD [] else [] := by
      unfold omenRest
      cases ho : s.omenExit
      · cases hp : s.files.omenOpt
        · rfl
        · rw [(h.opt (hm ▸ rfl) ho hp).1]; rfl
      · rw [Bool.or_true]
    show _ ++ remaining us (saveOnQuit s i) = _
    rw [pending, hm, hstale]
    rfl
  case case5 hm hq hu | case6 hm hq _ _ hu | case7 hm hq _ hu =>
    simp [pending, hm, omenRest, h.not_quit (shouldExit_of_not_quitTest hq), fullStream_drop_some us _ _ hu, Unit'.lines]
  case case8 hm | case9 hm | case11 hm => simp [pending, hm, omenRest, h.unit_oe (hm ▸ rfl)]
  case case10 _ hm => simp [pending, hm]
  case case12 s1 _ hm => simp [pending, hm, omenRest, s1]
  case case13 s1 _ hm => simp [pending, hm, s1]

theorem Inv.step (h : Inv us f s) : Inv us f (mainStep us s) := by
  have outp := h.conserve.trans h.outp
  -- `fun_cases` puts the record update in place of the step in the goal only
  revert outp
  fun_cases mainStep us s
  case case1 | case2 => exact fun _ => h
  case case3 hm _ | case5 hm _ _ | case8 hm | case9 hm =>
    exact fun outp => { h with outp, unit_oe := nofun, exited := nofun, opt := fun _ => h.opt (hm ▸ rfl) }
  case case4 hm _ _ hq =>
    exact fun outp => { h with
      outp, unit_oe := nofun, exited := fun _ => ⟨h.se_qs (quitTest_eq s ▸ hq), rfl⟩
      opt := fun _ ho hp => h.opt (hm ▸ rfl) ho (by simpa [saveOnQuit, show s.omenExit = false from ho] using hp) }
  case case6 hm hq _ _ _ | case7 hm hq _ _ =>
    exact fun outp => { h with
      outp, unit_oe := fun _ => h.not_quit (shouldExit_of_not_quitTest hq), exited := nofun
      opt := fun _ => h.opt (hm ▸ rfl) }
  case case10 _ hm | case13 _ hm =>
    exact fun outp => { h with
      outp, unit_oe := fun _ => h.unit_oe (hm ▸ rfl), exited := nofun, opt := fun hr => h.opt (hm ▸ hr) }
  case case11 r hm =>
    -- a restored level that ends with `omenExit` unset drops the option
    refine fun outp => { h with outp, unit_oe := nofun, exited := nofun, opt := fun _ ho hp => ?_ }
    have ho : s.omenExit = false := ho
    rw [source_facts.2.1, ho] at hp
    cases r
    · exact h.opt (hm ▸ rfl) ho hp
    · cases hp
  case case12 hq _ =>
    exact fun outp => { h with outp, oe_se := fun _ => hq, unit_oe := nofun, opt := nofun, exited := nofun }

theorem Inv.kbd (h : Inv us f s) : Inv us f (kbdStep s) := by
  -- `caseN` is branch N of `kbdStep`: the list is at the head of the file
  fun_cases kbdStep s
  case case1 | case2 => exact h
  case case3 =>
    exact { h with
      se_qs := fun hq => Bool.or_eq_true_iff.mpr (.inl (h.se_qs hq))
      got_qs := fun _ hb => by cases hb; exact Bool.or_eq_true_iff.mpr (.inr (beq_self_eq_true _))
      exited := fun he => ⟨Bool.or_eq_true_iff.mpr (.inl (h.exited he).1), (h.exited he).2⟩ }
  case case8 hk =>
    rw [keepsQuit_eq, Bool.true_and]
    exact { h with
      oe_se := fun ho => Bool.or_eq_true_iff.mpr (.inl (h.oe_se ho))
      se_qs := fun hse => (Bool.or_eq_true_iff.mp hse).elim h.se_qs fun e => h.got_qs _ (beq_iff_eq.mp e ▸ hk)
      got_qs := nofun }
  case case9 hk _ hq _ _ =>
    exact { h with oe_se := fun _ => rfl, se_qs := fun _ => h.got_qs _ (beq_iff_eq.mp hq ▸ hk), got_qs := nofun }
  -- the other branches write `kbd`, to a state that holds no line, and at most `stdin` besides
  all_goals exact { h with got_qs := nofun }

theorem inv_run (us : List Unit') (f : Files) (stdin : List Ev) (σ : List Actor) :
    Inv us f (run us (initLoad f stdin) σ) :=
  run_induct us (Inv us f) Inv.step Inv.kbd σ _ (Inv.init us f stdin)

/-! What the invariant says of a state, whichever way it was reached: C12 and C15 read these at
`run us (initLoad f stdin) sched` (`inv_run`) -/

theorem Inv.out_prefix (h : Inv us f s) : s.out = (remaining us f).take s.out.length := by
  rw [← h.outp, List.take_left']
  rfl

/-- an early exit loses nothing and repeats nothing: what was printed, followed by what a session resumed from
the files left behind will print, is exactly what remained at the start -/
theorem Inv.exit_resume (h : Inv us f s) (he : s.main = .exited) :
    s.out ++ remaining us s.files = remaining us f := by
  simpa only [pending, he] using h.outp

/-- a session that runs to the end without a quit inside a Markov level printed everything -/
theorem Inv.finished_complete (h : Inv us f s) (hm : s.main = .finished) (ho : s.omenExit = false) :
    s.out = remaining us f := by
  simpa [pending, hm, omenRest, ho] using h.outp

/-- a resumed session whose interrupted Markov level ran to its end no longer asks for it -/
theorem Inv.no_replay (h : Inv us f s) (hf : f.omenOpt = true → f.omn.isSome = true)
    (he : s.main = .exited) (ho : s.omenExit = false) : s.files.omenOpt = false := by
  cases hp : s.files.omenOpt with
  | false => rfl
  | true =>
    obtain ⟨_, h1, h2⟩ := h.opt (he ▸ rfl) ho hp
    rw [h2] at hf
    cases hf h1

theorem Inv.no_quit (h : Inv us f s) (hq : s.quitSeen = false) :
    s.shouldExit = false ∧ s.main ≠ .exited ∧ s.omenExit = false := by
  have hse : s.shouldExit = false := Bool.eq_false_iff.mpr fun hse => by rw [h.se_qs hse] at hq; cases hq
  exact ⟨hse, (fun he => by rw [(h.exited he).1] at hq; cases hq), h.not_quit hse⟩

structure NQ (s : St) : Prop where
  stdin : ∀ t b, Ev.line t b ∈ s.stdin → t ≠ "q"
  qs : s.quitSeen = false

theorem NQ.init (f : Files) (stdin : List Ev) (hq : ∀ t b, Ev.line t b ∈ stdin → t ≠ "q") :
    NQ (initLoad f stdin) := by
  unfold initLoad
  split <;> exact ⟨hq, rfl⟩

theorem NQ.kbd (h : NQ s) : NQ (kbdStep s) := by
  fun_cases kbdStep s
  case case1 | case2 => exact h
  case case3 t b _ hs =>
    exact ⟨fun t' b' he => h.stdin t' b' (hs ▸ List.mem_cons_of_mem _ he),
      by simp [h.qs, h.stdin t b (hs ▸ List.mem_cons_self)]⟩
  case case4 hs | case5 hs => exact ⟨fun t b he => h.stdin t b (hs ▸ List.mem_cons_of_mem _ he), h.qs⟩
  all_goals exact ⟨h.stdin, h.qs⟩

theorem NQ.step (h : NQ s) : NQ (mainStep us s) := by
  fun_cases mainStep us s <;> exact ⟨h.stdin, h.qs⟩

theorem NQ.run (h : NQ s) (σ : List Actor) : NQ (run us s σ) :=
  run_induct us NQ NQ.step NQ.kbd σ s h

/-- main steps needed from the loop head before unit `i`: one per line, two per unit (the pop, and for a
Markov level the last call of the generator that finds nothing), one to find the queue empty -/
def headCost (us : List Unit') (i : Nat) : Nat :=
  (fullStream (us.drop i)).length + 2 * (us.length - i) + 1

/-- upper bound on the number of main steps until the main actor has terminated: inside a unit one per line left and
one for the step that finds none (a plain unit never takes it).  That `+ 1` stands outermost, so that
`cost_mainStep` needs no arithmetic beyond unfolding `+` -/
def cost (us : List Unit') : Main → Nat
  | .finished | .exited => 0
  | .loopHead i => headCost us i
  | .plain i rest | .omen i rest _ => headCost us i + rest.length + 1

theorem headCost_some {i : Nat} {u : Unit'} (h : us[i]? = some u) :
    headCost us (i + 1) + u.lines.length + 1 < headCost us i := by
  have := (List.getElem?_eq_some_iff.mp h).1
  simp only [headCost, fullStream_drop_some us i u h, List.length_append]
  omega

theorem cost_zero (us : List Unit') (m : Main) (h : cost us m = 0) : m = .finished ∨ m = .exited := by
  cases m
  case finished => exact .inl rfl
  case exited => exact .inr rfl
  all_goals cases h

/-- every main step of a main actor that has not terminated pays one -/
theorem cost_mainStep (us : List Unit') (s : St) : cost us (mainStep us s).main ≤ cost us s.main - 1 := by
  fun_cases mainStep us s
  case case1 hm | case2 hm => rw [hm]; exact Nat.zero_le _
  case case3 | case4 => exact Nat.zero_le _
  case case5 hm _ hu =>
    rw [hm]
    exact Nat.le_sub_one_of_lt (Nat.lt_of_le_of_lt (Nat.le_add_right ..) (Nat.lt_of_succ_lt (headCost_some hu)))
  case case6 hm _ _ _ hu | case7 hm _ _ hu => rw [hm]; exact Nat.le_sub_one_of_lt (headCost_some hu)
  case case8 hm | case10 _ hm | case11 hm | case13 _ hm => rw [hm]; exact Nat.le_sub_one_of_lt (Nat.lt_succ_self _)
  case case9 hm | case12 _ hm => rw [hm]; exact Nat.le_sub_one_of_lt (Nat.lt_succ_of_le (Nat.le_add_right ..))

theorem kbdStep_main (s : St) : (kbdStep s).main = s.main := by
  fun_cases kbdStep s <;> rfl

theorem terminated_of_cost (us : List Unit') (s : St) (σ : List Actor) (hn : cost us s.main ≤ σ.count .main) :
    (run us s σ).main = .finished ∨ (run us s σ).main = .exited := by
  induction σ generalizing s with
  | nil => exact cost_zero us _ (Nat.le_zero.mp hn)
  | cons a σ ih =>
    rw [List.count_cons] at hn
    refine ih (step us s a) ?_
    cases a with
    | main => exact Nat.le_trans (cost_mainStep us s) (Nat.sub_le_of_le_add hn)
    | kbd => exact (kbdStep_main s ▸ hn : cost us (kbdStep s).main ≤ _)

theorem cost_init (us : List Unit') (f : Files) (stdin : List Ev) :
    cost us (initLoad f stdin).main ≤ (remaining us f).length + 2 * us.length + 2 := by
  unfold initLoad
  split <;> simp [cost, remaining, headCost, *] <;> omega

end Pcfg.Sess
