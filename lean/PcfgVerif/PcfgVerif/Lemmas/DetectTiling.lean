import PcfgVerif.Model.DetectSpec
/-!
Slices, labels, tilings, the labelled sections as (label, text) pairs (`labelled`), and the shape every per-section detector
returns (`cut`): the unlabelled text in front of what it found, the labelled sections it found, the unlabelled text behind.
A tiling is built by putting a section in front of one (`tilesFrom_cons_of_length`), opened at any place (`tilesFrom_append`),
and carried from the text of an unlabelled section to the password that text is a slice of (`tilesFrom_shift`).
-/
namespace Pcfg.Detect

theorem lbl_toList (c : Char) (n : Nat) : (lbl c n).toList = c :: (toString n).toList := by
  simp [lbl, String.toList_append]

theorem lbl_ne_W (c : Char) (n : Nat) : lbl c n ≠ "W" :=
  fun h => by simpa [lbl_toList] using congrArg String.toList h

theorem slice_length (s : CPs) (a b : Nat) : (slice s a b).length = min (b - a) (s.length - a) := by
  simp only [slice, List.length_take, List.length_drop]

theorem slice_length_of_le {s : CPs} {a b : Nat} (h : b ≤ s.length) : (slice s a b).length = b - a := by
  rw [slice_length]; exact Nat.min_eq_left (Nat.sub_le_sub_right h a)

theorem slice_length_add {s : CPs} {a n : Nat} (h : a + n ≤ s.length) : (slice s a (a + n)).length = n :=
  (slice_length_of_le h).trans (Nat.add_sub_cancel_left ..)

theorem slice_slice (pw : CPs) (a b c d : Nat) :
    slice (slice pw a b) c d = slice pw (a + c) (a + c + min (d - c) (b - a - c)) := by
  simp only [slice, List.drop_take, List.take_take, List.drop_drop, Nat.add_sub_cancel_left]

theorem slice_zero_length (s : CPs) : slice s 0 s.length = s := by
  simp [slice]

theorem take_eq_slice (s : CPs) (n : Nat) : s.take n = slice s 0 n := by
  simp [slice]

theorem drop_eq_slice (s : CPs) (n : Nat) : s.drop n = slice s n s.length := by
  simp only [slice]
  rw [List.take_of_length_le (by simp)]

theorem lenPres_slice (U : UEnv) (pw : CPs) (a b : Nat) (h : LenPres U pw) : LenPres U (slice pw a b) := by
  intro c d
  rw [slice_slice]
  exact h _ _

theorem lenPres_length (U : UEnv) (text : CPs) (hl : LenPres U text) :
    (U.lowerS text).length = text.length := by
  have := hl 0 text.length
  rwa [slice_zero_length] at this

/-- how a section comes to stand in front of a tiling: between `a` and `b` it is the slice of the text, of the lower-cased
text if it is a website -/
theorem tilesFrom_cons_of_length (U : UEnv) (text : CPs) (a b : Nat) (x : CPs) (l : Option String)
    (hab : a < b) (hb : b ≤ text.length) (hx : x.length = b - a)
    (h1 : l ≠ some "W" → x = slice text a b) (h2 : l = some "W" → x = slice (U.lowerS text) a b)
    (rest : List Sec) (hr : TilesFrom U text b rest) : TilesFrom U text a ((x, l) :: rest) := by
  have e : a + x.length = b := by omega
  refine ⟨⟨fun (h0 : x = []) => ?_, e ▸ hb, fun h => e ▸ h1 h,
    fun h => ⟨0, text.length, a.zero_le, e ▸ hb, Nat.le_refl _, ?_⟩⟩, e ▸ hr⟩
  · rw [h0] at hx; exact absurd hx.symm (Nat.sub_ne_zero_of_lt hab)
  · rw [slice_zero_length, Nat.sub_zero, e]; exact h2 h

theorem tilesFrom_cons_slice (U : UEnv) (text : CPs) (a b : Nat) (l : Option String)
    (hl : l ≠ some "W") (hab : a < b) (hb : b ≤ text.length) (rest : List Sec) (hr : TilesFrom U text b rest) :
    TilesFrom U text a ((slice text a b, l) :: rest) :=
  tilesFrom_cons_of_length U text a b _ l hab hb (slice_length_of_le hb) (fun _ => rfl) (fun h => absurd h hl) rest hr

/-- a tiling of `xs ++ ys` holds a tiling `ys` from some offset on, in whose place any other may be put -/
theorem tilesFrom_append (U : UEnv) (pw : CPs) (xs ys : List Sec) (k : Nat) (h : TilesFrom U pw k (xs ++ ys)) :
    ∃ k', TilesFrom U pw k' ys ∧ ∀ ys', TilesFrom U pw k' ys' → TilesFrom U pw k (xs ++ ys') := by
  induction xs generalizing k with
  | nil => exact ⟨k, h, fun _ h' => h'⟩
  | cons x xs ih =>
    obtain ⟨k', a, b⟩ := ih _ h.2
    exact ⟨k', a, fun ys' h' => ⟨h.1, b ys' h'⟩⟩

theorem pieceOK_shift (U : UEnv) (pw text : CPs) (off k : Nat) (s : Sec)
    (hle : off + text.length ≤ pw.length)
    (ht : text = slice pw off (off + text.length))
    (h : pieceOK U text k s) : pieceOK U pw (off + k) s := by
  obtain ⟨h1, h2, h3, h4⟩ := h
  have sub : ∀ a b, a ≤ b → b ≤ text.length → slice text a b = slice pw (off + a) (off + b) := by
    intro a b hab hb
    rw [ht, slice_slice, Nat.min_eq_left (by omega), Nat.add_assoc, Nat.add_sub_cancel' hab]
  refine ⟨h1, by omega, fun hw => ?_, fun hw => ?_⟩
  · rw [Nat.add_assoc, ← sub _ _ (Nat.le_add_right _ _) h2]; exact h3 hw
  · obtain ⟨a, b, ha, hb, hb', hs⟩ := h4 hw
    refine ⟨off + a, off + b, by omega, by omega, by omega, ?_⟩
    rw [← sub a b (by omega) hb', Nat.add_sub_add_left]
    exact hs

theorem tilesFrom_shift (U : UEnv) (pw text : CPs) (off : Nat) (rest : List Sec)
    (hle : off + text.length ≤ pw.length)
    (ht : text = slice pw off (off + text.length))
    (hr : TilesFrom U pw (off + text.length) rest) (pieces : List Sec) (k : Nat) (h : TilesFrom U text k pieces) :
    TilesFrom U pw (off + k) (pieces ++ rest) := by
  induction pieces generalizing k with
  | nil => exact (show k = text.length from h) ▸ hr
  | cons s ps ih => exact ⟨pieceOK_shift U pw text off k s hle ht h.1, Nat.add_assoc .. ▸ ih _ h.2⟩

set_option linter.unusedVariables false in
/-- tiling is stable under replacing an unlabelled section by pieces that tile it
(`hl` is not needed by the proof) -/
theorem tiles_replace (U : UEnv) (pw : CPs) (off : Nat) (text : CPs) (pieces rest : List Sec)
    (hl : LenPres U pw)
    (h : TilesFrom U pw off ((text, none) :: rest))
    (hp : TilesFrom U text 0 pieces) :
    TilesFrom U pw off (pieces ++ rest) :=
  tilesFrom_shift U pw text off rest h.1.2.1 (h.1.2.2.1 (by simp)) h.2 pieces 0 hp

/-- the starting point of the pipeline: a non-empty password as one unlabelled section -/
theorem tilesFrom_single (U : UEnv) (pw : CPs) (h : pw ≠ []) : TilesFrom U pw 0 [(pw, none)] :=
  tilesFrom_cons_of_length U pw 0 pw.length pw none (List.length_pos_iff.mpr h) (Nat.le_refl _) rfl
    (fun _ => (slice_zero_length pw).symm) nofun [] rfl

theorem tilesFrom_unlabelled_slice (U : UEnv) (pw : CPs) (secs : List Sec) (off : Nat) (h : TilesFrom U pw off secs) :
    ∀ s ∈ secs, s.2 = none → ∃ a b, s.1 = slice pw a b := by
  intro s hs hn
  obtain ⟨xs, ys, rfl⟩ := List.append_of_mem hs
  obtain ⟨k, h', -⟩ := tilesFrom_append U pw xs _ off h
  exact ⟨k, _, h'.1.2.2.1 (by simp [hn])⟩

theorem tiles_spell (U : UEnv) (pw : CPs) (secs : List Sec) (off : Nat) (h : TilesFrom U pw off secs)
    (hw : ∀ s ∈ secs, s.2 ≠ some "W") : secs.flatMap (·.1) = pw.drop off ∧ ∀ s ∈ secs, s.1 ≠ [] := by
  induction secs generalizing off with
  | nil => subst h; exact ⟨List.drop_length.symm, nofun⟩
  | cons s rest ih =>
    obtain ⟨⟨hne, _, hs, _⟩, hr⟩ := h
    obtain ⟨hw0, hwr⟩ := List.forall_mem_cons.mp hw
    obtain ⟨e, ihne⟩ := ih _ hr hwr
    refine ⟨?_, List.forall_mem_cons.mpr ⟨hne, ihne⟩⟩
    replace hs := hs hw0
    generalize s.1.length = n at hs e
    rw [List.flatMap_cons, e, hs, slice, Nat.add_sub_cancel_left, ← List.drop_drop, List.take_append_drop]

/-- the labelled sections as (label, text) pairs, in password order -/
def labelled (secs : List Sec) : List (String × CPs) := secs.filterMap fun s => s.2.map (·, s.1)

theorem labelled_append (a b : List Sec) : labelled (a ++ b) = labelled a ++ labelled b := by
  simp [labelled, List.filterMap_append]

theorem labelled_cons_none (t : CPs) (r : List Sec) : labelled ((t, none) :: r) = labelled r := rfl

theorem labelled_cons_some (t : CPs) (l : String) (r : List Sec) :
    labelled ((t, some l) :: r) = (l, t) :: labelled r := rfl

theorem labelled_texts : ∀ secs : List Sec, (labelled secs).map (·.2) = (secs.filter (·.2.isSome)).map (·.1)
  | [] => rfl
  | (_, none) :: r => labelled_texts r
  | (t, some _) :: r => congrArg (t :: ·) (labelled_texts r)

/-- Every per-section detector answers with the unlabelled text in front of what it found (if there is any), the labelled
sections `mid` it found between `s` and `e`, and the unlabelled text behind (if there is any). -/
def cut (text : CPs) (s e : Nat) (mid : List Sec) : List Sec :=
  (if s = 0 then [] else [(text.take s, none)]) ++ (mid ++ if e = text.length then [] else [(text.drop e, none)])

theorem mem_cut {text : CPs} {s e : Nat} {mid : List Sec} {p : Sec} :
    p ∈ cut text s e mid ↔
      (s ≠ 0 ∧ p = (text.take s, none)) ∨ p ∈ mid ∨ (e ≠ text.length ∧ p = (text.drop e, none)) := by
  simp [cut]

/-- the detectors write their answer with tests of their own in place of `s = 0` and `e = text.length` -/
theorem cut_eq (text : CPs) (s e : Nat) (mid : List Sec) (c1 c2 : Prop) [Decidable c1] [Decidable c2]
    (h1 : c1 ↔ s ≠ 0) (h2 : c2 ↔ e ≠ text.length) :
    (if c1 then [((text.take s, none) : Sec)] else []) ++ mid ++ (if c2 then [((text.drop e, none) : Sec)] else []) =
      cut text s e mid := by
  simp [cut, h1, h2]

theorem cut_head {text : CPs} {s e : Nat} {mid : List Sec} {p : Sec} {ps : List Sec} (hne : mid ≠ [])
    (h : cut text s e mid = p :: ps) : (s ≠ 0 ∧ p = (text.take s, none)) ∨ p ∈ mid := by
  unfold cut at h
  split at h
  · cases mid with
    | nil => exact absurd rfl hne
    | cons m _ => exact .inr ((List.cons.inj h).1 ▸ .head _)
  · exact .inl ⟨‹_›, (List.cons.inj h).1.symm⟩

theorem labelled_cut (text : CPs) (s e : Nat) (mid : List Sec) : labelled (cut text s e mid) = labelled mid := by
  unfold cut
  split <;> split <;> simp [labelled]

theorem cut_unlabelled {text : CPs} {s e : Nat} {mid : List Sec} (hmid : ∀ p ∈ mid, p.2 ≠ none)
    {p : Sec} (hp : p ∈ cut text s e mid) (hn : p.2 = none) : ∃ a b, p.1 = slice text a b := by
  rcases mem_cut.mp hp with ⟨_, rfl⟩ | h | ⟨_, rfl⟩
  · exact ⟨_, _, take_eq_slice _ _⟩
  · exact absurd hn (hmid p h)
  · exact ⟨_, _, drop_eq_slice _ _⟩

theorem cut_ne_nil {text : CPs} {s e : Nat} {mid : List Sec} (h : mid ≠ []) : cut text s e mid ≠ [] := by
  simp [cut, h]

/-- what `DetectorOK` asks of an answer, for a cut: it tiles the text when `mid` tiles it between `s` and `e`, that is, put in
front of any tiling from `e` on gives one from `s` on -/
theorem tiles_cut (U : UEnv) (text : CPs) (s e : Nat) (mid : List Sec) (hne : mid ≠ []) (hse : s ≤ e)
    (he : e ≤ text.length) (hmid : ∀ rest, TilesFrom U text e rest → TilesFrom U text s (mid ++ rest)) :
    cut text s e mid ≠ [] ∧ TilesFrom U text 0 (cut text s e mid) := by
  refine ⟨cut_ne_nil hne, ?_⟩
  have tail : TilesFrom U text e (if e = text.length then [] else [(text.drop e, none)]) := by
    split
    · assumption
    · exact drop_eq_slice text e ▸ tilesFrom_cons_slice U text e _ none nofun (by omega) (Nat.le_refl _) [] rfl
  unfold cut
  split
  · subst s; exact hmid _ tail
  · exact take_eq_slice text s ▸ tilesFrom_cons_slice U text 0 s none nofun (by omega) (by omega) _ (hmid _ tail)

end Pcfg.Detect
