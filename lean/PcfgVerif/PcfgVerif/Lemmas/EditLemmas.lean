import PcfgVerif.Model.EditRules
import PcfgVerif.Lemmas.TextLemmas
/-!
# Helper lemmas for `edit_rules` (C20)

A grammar.txt as the trainer writes it is `gText rows`: each line is the labels of a row, a TAB and its probability text
(`gLine`).  On such a line `tokGo`, `probField` and `structField` give the row back, and `textLines` gives the lines back, so
each of the three filters is `List.filter` on the rows (`filter_lines`).  `totalLen_bounds` is the arithmetic of the length
filter: the two totals of a structure enclose the length of every guess.
-/
namespace Pcfg

theorem gen_yearLenLo : Generated.EditRules.yearLenLo = 4 := rfl
theorem gen_yearLenHi : Generated.EditRules.yearLenHi = 4 := rfl
theorem gen_startLo : Generated.EditRules.startLo = 0 := rfl
theorem gen_startHi : Generated.EditRules.startHi = 0 := rfl
theorem gen_ctxLo (ctx : Nat × Nat) : ctxAt ctx Generated.EditRules.ctxLoIdx = ctx.1 := rfl
theorem gen_ctxHi (ctx : Nat × Nat) : ctxAt ctx Generated.EditRules.ctxHiIdx = ctx.2 := rfl

/-- the generated tests compare `Char`s; the lines are code points -/
theorem ofNat_beq (c : Nat) (h : c < 0xd800) (k : Char) :
    (Char.ofNat c == k) = decide (c = k.toNat) := by
  rw [Bool.eq_iff_iff, beq_iff_eq, decide_eq_true_eq, ← Char.toNat_inj, toNat_ofNat c (.inl h)]

theorem totalLen_nil (ctx : Nat × Nat) : totalLen ctx [] = some (0, 0) := rfl

theorem totalLen_cons_eq_some (ctx : Nat × Nat) (t : CPs) (ts : List CPs) (r : Nat × Nat) :
    totalLen ctx (t :: ts) = some r ↔
      ∃ a b, tokenLen ctx t = some a ∧ totalLen ctx ts = some b ∧ r = (a.1 + b.1, a.2 + b.2) := by
  constructor
  · intro h
    rw [totalLen] at h
    split at h
    · next a b ha hb => exact ⟨a, b, ha, hb, (Option.some.inj h).symm⟩
    · cases h
  · rintro ⟨a, b, ha, hb, rfl⟩
    rw [totalLen, ha, hb]

/-- `l` is a length a value behind the label `tok` can have, according to what the ruleset holds: the label's number
for A, D, O, K, 4 for Y, between that number times the shortest and times the longest context value for X -/
def LabelLenOK (ctx : Nat × Nat) (tok : CPs) (l : Nat) : Prop :=
  ∃ a b, tokenLen ctx tok = some (a, b) ∧ a ≤ l ∧ l ≤ b

/-- a guess of a structure is one value per label: its length lies between the two totals -/
theorem totalLen_bounds (ctx : Nat × Nat) (toks : List CPs) (ls : List Nat) (hlen : ls.length = toks.length)
    (h : ∀ i (hi : i < toks.length), LabelLenOK ctx toks[i] (ls[i]'(hlen ▸ hi))) :
    ∃ lo hi, totalLen ctx toks = some (lo, hi) ∧ lo ≤ ls.sum ∧ ls.sum ≤ hi := by
  induction toks generalizing ls with
  | nil => exact ⟨0, 0, rfl, Nat.zero_le _, by rw [List.length_eq_zero_iff.mp hlen]; exact Nat.le_refl 0⟩
  | cons t ts ih =>
    obtain ⟨l, ls, rfl⟩ := List.exists_cons_of_length_eq_add_one hlen
    obtain ⟨a, b, hab, hal, hlb⟩ := h 0 (Nat.zero_lt_succ _)
    obtain ⟨lo, hi, hts, hlo, hhi⟩ := ih ls (Nat.succ_inj.mp hlen) fun i hi => h (i + 1) (Nat.succ_lt_succ hi)
    rw [List.sum_cons]
    exact ⟨a + lo, b + hi, (totalLen_cons_eq_some ctx t ts _).mpr ⟨_, _, hab, hts, rfl⟩, Nat.add_le_add hal hlo,
      Nat.add_le_add hlb hhi⟩

theorem upper_not_digit {c : Nat} (h : isUpperAZ c = true) : isDigit09 c = false :=
  have := of_decide_eq_true h
  decide_eq_false (by omega)

theorem tokGo_digits (ds rest acc : CPs) (h : ∀ d ∈ ds, isDigit09 d = true) :
    tokGo (ds ++ rest) (some acc) = tokGo rest (some (ds.reverse ++ acc)) := by
  induction ds generalizing acc with
  | nil => simp
  | cons d ds ih =>
    obtain ⟨hd, hds⟩ := List.forall_mem_cons.mp h
    simp [tokGo, hd, ih _ hds]

theorem tokGo_noUpper_none (p : CPs) (h : ∀ c ∈ p, isUpperAZ c = false) : tokGo p none = [] := by
  induction p with
  | nil => simp [tokGo]
  | cons c p ih =>
    obtain ⟨hc, hp⟩ := List.forall_mem_cons.mp h
    simp [tokGo, hc, ih hp]

theorem tokGo_cons_nondigit (c : Nat) (rest : CPs) (cur : Option CPs) (h : isDigit09 c = false) :
    tokGo (c :: rest) cur =
      cur.toList.map List.reverse ++ tokGo rest (if isUpperAZ c then some [c] else none) := by
  cases cur <;> cases hu : isUpperAZ c <;> simp [tokGo, h, hu]

/-- a length label as the trainer writes it: one upper-case letter followed by decimal digits -/
def IsLabel (t : CPs) : Prop := ∃ c ds, t = c :: ds ∧ isUpperAZ c = true ∧ ∀ d ∈ ds, isDigit09 d = true

theorem tokGo_label {t : CPs} (ht : IsLabel t) (rest : CPs) (cur : Option CPs) :
    tokGo (t ++ rest) cur = cur.toList.map List.reverse ++ tokGo rest (some t.reverse) := by
  obtain ⟨c, ds, rfl, hc, hds⟩ := ht
  rw [List.cons_append, tokGo_cons_nondigit _ _ _ (upper_not_digit hc), hc, if_pos rfl, tokGo_digits _ _ _ hds,
    List.reverse_cons]

theorem tokGo_labels_tab (labels : List CPs) (prob : CPs) (hl : ∀ t ∈ labels, IsLabel t)
    (hp : ∀ c ∈ prob, isUpperAZ c = false) (cur : Option CPs) :
    tokGo (labels.flatten ++ 0x09 :: prob) cur = cur.toList.map List.reverse ++ labels := by
  induction labels generalizing cur with
  | nil =>
    rw [List.flatten_nil, List.nil_append, tokGo_cons_nondigit _ _ _ rfl, if_neg (by decide), tokGo_noUpper_none prob hp]
  | cons t ls ih =>
    obtain ⟨ht, hls⟩ := List.forall_mem_cons.mp hl
    rw [List.flatten_cons, List.append_assoc, tokGo_label ht, ih hls]
    simp

theorem labels_flatten_ne (labels : List CPs) (hl : ∀ t ∈ labels, IsLabel t) :
    ∀ c ∈ labels.flatten, c ≠ 0x09 ∧ c ≠ 0x0a := by
  refine List.forall_mem_flatten.mpr fun t ht c hct => ?_
  obtain ⟨c0, ds, rfl, hc0, hds⟩ := hl t ht
  -- letters and digits lie above TAB and newline
  have : 48 ≤ c := by
    rcases List.mem_cons.mp hct with rfl | h
    · exact Nat.le_trans (by decide) (of_decide_eq_true hc0).1
    · exact (of_decide_eq_true (hds c h)).1
  omega

theorem textLines_blocks {α : Type} (f : α → CPs) (ls : List α) (h : ∀ l ∈ ls, ∀ c ∈ f l, c ≠ 0x0a) :
    textLines ((ls.map fun l => f l ++ [0x0a]).flatten) = ls.map f ++ [[]] := by
  unfold textLines pySplit
  induction ls with
  | nil => rfl
  | cons l ls ih =>
    obtain ⟨hl, hls⟩ := List.forall_mem_cons.mp h
    rw [List.map_cons, List.flatten_cons, List.append_assoc, List.singleton_append, splitOnCp_field _ _ _ _ hl, ih hls]
    rfl

/-- a probability field as it stands in grammar.txt: no upper-case letter, no TAB, no newline, no
surrounding whitespace -/
def IsProbText (p : CPs) : Prop :=
  (∀ c ∈ p, isUpperAZ c = false ∧ c ≠ 0x09 ∧ c ≠ 0x0a) ∧ lstripWs (rstripWs p) = p

/-- one well-formed line `labels<TAB>prob` (without the newline) -/
def gLine (labels : List CPs) (prob : CPs) : CPs := labels.flatten ++ [0x09] ++ prob

/-- the line `rebuild` writes back, under the name `rebuild_eq` states it with (the text of `gLine`) -/
def lineRaw (labels : List CPs) (prob : CPs) : CPs := labels.flatten ++ [0x09] ++ prob

theorem rebuild_eq (labels : List CPs) (prob : CPs) :
    rebuild labels prob = lineRaw labels prob ++ [0x0a] := rfl

theorem gLine_isEmpty (labels : List CPs) (prob : CPs) : (gLine labels prob).isEmpty = false := by
  simp [gLine]

/-- the text of a grammar file made of well-formed lines -/
def gText (rows : List (List CPs × CPs)) : CPs :=
  (rows.map fun r => gLine r.1 r.2 ++ [0x0a]).flatten

theorem pySplit_gLine {labels : List CPs} {prob : CPs} (hl : ∀ t ∈ labels, IsLabel t) (hp : IsProbText prob) :
    pySplit 0x09 (gLine labels prob) = [labels.flatten, prob] := by
  rw [pySplit, gLine, List.append_assoc, List.singleton_append,
    splitOnCp_field _ _ _ _ fun c hc => (labels_flatten_ne labels hl c hc).1,
    splitOnCp_no_sep _ _ _ fun c hc => (hp.1 c hc).2.1]
  rfl

theorem probField_gLine (labels : List CPs) (prob : CPs) (hl : ∀ t ∈ labels, IsLabel t)
    (hp : IsProbText prob) : probField (gLine labels prob) = some prob := by
  simp [probField, pySplit_gLine hl hp, hp.2]

theorem structField_gLine (labels : List CPs) (prob : CPs) (hl : ∀ t ∈ labels, IsLabel t)
    (hp : IsProbText prob) : structField (gLine labels prob) = labels.flatten := by
  simp [structField, pySplit_gLine hl hp]

theorem gLine_no_newline {labels : List CPs} {prob : CPs} (hl : ∀ t ∈ labels, IsLabel t) (hp : IsProbText prob) :
    ∀ c ∈ gLine labels prob, c ≠ 0x0a := by
  simp only [gLine, List.forall_mem_append]
  exact ⟨⟨fun c hc => (labels_flatten_ne labels hl c hc).2, by decide⟩, fun c hc => (hp.1 c hc).2.2⟩

theorem textLines_gText (rows : List (List CPs × CPs))
    (h : ∀ r ∈ rows, (∀ t ∈ r.1, IsLabel t) ∧ IsProbText r.2) :
    textLines (gText rows) = (rows.map fun r => gLine r.1 r.2) ++ [[]] :=
  textLines_blocks _ rows fun r hr => gLine_no_newline (h r hr).1 (h r hr).2

/-! ## The three filters are `List.filter` on the rows

Each of `edit_length`, `edit_terminal_set`, `check_regex` walks the lines, writes a well-formed line back unchanged
or drops it, and passes over the empty last line.  `filter_lines` is that loop once; each filter then only has to say
what it does with one line when the lines after it went through. -/

theorem filter_lines (F : List CPs → Option (List CPs)) (keep : List CPs × CPs → Bool)
    (rows : List (List CPs × CPs)) (hrows : ∀ r ∈ rows, (∀ t ∈ r.1, IsLabel t) ∧ IsProbText r.2)
    (hlast : F [[]] = some [])
    (hstep : ∀ r ∈ rows, ∀ rest more, F rest = some more → F (gLine r.1 r.2 :: rest) =
      some (if keep r then (gLine r.1 r.2 ++ [0x0a]) :: more else more)) :
    (F (textLines (gText rows))).map List.flatten = some (gText (rows.filter keep)) := by
  suffices h : F (textLines (gText rows)) = some ((rows.filter keep).map fun r => gLine r.1 r.2 ++ [0x0a]) by
    rw [h]; rfl
  rw [textLines_gText rows hrows]
  clear hrows
  induction rows with
  | nil => exact hlast
  | cons r rows ih =>
    obtain ⟨hr, hrest⟩ := List.forall_mem_cons.mp hstep
    rw [List.map_cons, List.cons_append, List.filter_cons, hr _ _ (ih hrest)]
    cases keep r <;> rfl

end Pcfg
