import PcfgVerif.Model.Probs
import PcfgVerif.Lemmas.SoftFloatLemmas
import PcfgVerif.Lemmas.ListFacts
/-! `calculate_probabilities` (`calcProbs`): what is written, in which order, and the sums over exact rationals (C06). -/
namespace Pcfg
namespace ProbsLemmas
variable {Q α : Type}

theorem mostCommon_perm (O : QOps Q) (items : List (α × Q)) : (mostCommon O items).Perm items :=
  List.mergeSort_perm _ _

theorem foldl_add_rat (l : List Rat) (acc : Rat) :
    l.foldl (fun a x => a + x) acc = acc + l.sum :=
  List.foldl_eq_apply_foldr

theorem sum_perm_rat {l₁ l₂ : List Rat} (h : l₁.Perm l₂) : l₁.sum = l₂.sum :=
  h.foldr_eq' (fun x _ y _ z => Rat.add_left_comm y x z) 0

theorem div_le_div_right_rat {a b t : Rat} (h : b ≤ a) (ht : 0 < t) : b / t ≤ a / t :=
  Rat.mul_le_mul_of_nonneg_right h (Rat.le_of_lt (Rat.inv_pos.mpr ht))

end ProbsLemmas
open ProbsLemmas
variable {Q α : Type}

def ratOps : QOps Rat := ⟨0, (· + ·), (· / ·), fun a b => decide (b ≤ a)⟩

theorem calcProbs_mem (O : QOps Q) (items : List (α × Q)) (v : α) (p : Q) :
    (v, p) ∈ calcProbs O items ↔ ∃ c, (v, c) ∈ items ∧ p = O.div c (totalCount O items) := by
  unfold calcProbs
  simp only [List.mem_map, (mostCommon_perm O items).mem_iff, Prod.mk.injEq]
  constructor
  · rintro ⟨⟨w, c⟩, hmem, rfl, rfl⟩
    exact ⟨c, hmem, rfl⟩
  · rintro ⟨c, hmem, rfl⟩
    exact ⟨(v, c), hmem, rfl, rfl⟩

section
variable (O : QOps Q) (htot : ∀ a b, O.ge a b = true ∨ O.ge b a = true)
  (htrans : ∀ a b c, O.ge a b = true → O.ge b c = true → O.ge a c = true) (items : List (α × Q))
include htot htrans

theorem mostCommon_sorted : (mostCommon O items).Pairwise fun a b => O.ge a.2 b.2 = true :=
  List.pairwise_mergeSort (fun a b c => htrans a.2 b.2 c.2) (fun a b => Bool.or_eq_true_iff.mpr (htot a.2 b.2)) items

/-- `most_common` is stable: the items a filter keeps, if they stand in order already, come out as they went in -/
theorem mostCommon_filter (p : α × Q → Bool) (hp : (items.filter p).Pairwise fun a b => O.ge a.2 b.2 = true) :
    (mostCommon O items).filter p = items.filter p := by
  have hsub : (items.filter p).Sublist (mostCommon O items) :=
    List.sublist_mergeSort (fun a b c => htrans a.2 b.2 c.2) (fun a b => Bool.or_eq_true_iff.mpr (htot a.2 b.2))
      hp List.filter_sublist
  -- filtered once more it is a sublist of the filtered output, and as long as it
  have h1 := hsub.filter p
  rw [List.filter_filter, funext fun a => Bool.and_self (p a)] at h1
  exact (h1.eq_of_length ((mostCommon_perm O items).filter p).length_eq.symm).symm

end

theorem totalCount_rat (items : List (α × Rat)) : totalCount ratOps items = (items.map (·.2)).sum := by
  rw [List.sum_eq_foldl, List.foldl_map]
  rfl

theorem calcProbs_sum_one (items : List (α × Rat)) (hpos : totalCount ratOps items ≠ 0) :
    ((calcProbs ratOps items).map (·.2)).sum = 1 := by
  rw [calcProbs, List.map_map]
  show ((mostCommon ratOps items).map fun it => it.2 * (totalCount ratOps items)⁻¹).sum = 1
  rw [List.sum_map_mul_right _ Prod.snd, sum_perm_rat ((mostCommon_perm ratOps items).map _), ← totalCount_rat]
  exact Rat.mul_inv_cancel _ hpos

/-- `most_common` of a counter of exact rationals: the counts come out non-increasing -/
theorem mostCommon_rat_sorted (items : List (α × Rat)) :
    (mostCommon ratOps items).Pairwise fun a b => b.2 ≤ a.2 := by
  -- stated once, so that no step has to unfold `decide` to see it
  have hge (a b : Rat) : ratOps.ge a b = true ↔ b ≤ a := by simp only [ratOps, decide_eq_true_eq]
  exact (mostCommon_sorted ratOps (fun a b => Rat.le_total.imp (hge a b).mpr (hge b a).mpr)
    (fun a b c h1 h2 => (hge a c).mpr (Rat.le_trans ((hge b c).mp h2) ((hge a b).mp h1))) items).imp (hge _ _).mp

namespace C07
/-- `calculate_probabilities` over binary64 (the same definition as `C06.sfQOps`) -/
def sfQ : QOps Nat := ⟨0, (· + ·), SF.ratio, fun a b => decide (a ≥ b)⟩
end C07

/-- `most_common` of a counter of naturals: the counts come out non-increasing -/
theorem mostCommon_nat_sorted (items : List (α × Nat)) :
    (mostCommon C07.sfQ items).Pairwise fun a b => b.2 ≤ a.2 :=
  (mostCommon_sorted C07.sfQ (fun a b => (Nat.le_total b a).imp decide_eq_true decide_eq_true)
    (fun _ _ _ h1 h2 => decide_eq_true (Nat.le_trans (of_decide_eq_true h2) (of_decide_eq_true h1))) items).imp
    of_decide_eq_true

/-- `calculate_probabilities` over binary64 (counts are naturals, `/` is the correctly rounded quotient `SF.ratio`): rounding
`count / total` never inverts the order of two counts (`SF.ratio_mono`), whatever the divisor -/
theorem mostCommon_ratio_sorted (total : Nat) (items : List (α × Nat)) :
    ((mostCommon C07.sfQ items).map fun it => (it.1, SF.ratio it.2 total)).Pairwise fun a b => b.2 ≤ a.2 := by
  rw [List.pairwise_map]
  exact (mostCommon_nat_sorted items).imp fun {a b} h => SF.ratio_mono _ h

end Pcfg
