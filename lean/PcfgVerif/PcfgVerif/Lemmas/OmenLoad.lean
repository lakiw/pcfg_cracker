import PcfgVerif.Lemmas.OmenToTables
/-!
# The OMEN files of a trained ruleset load into what `toTables` describes

While no level is out of range, each loader is a fold over the records it stores: of `appendAt` for `IP.level` and
`LN.level` (`loadIpGo_eq_foldl`, `loadLnGo_eq_foldl`), of `insertCp` for `CP.level` (`loadCpGo_eq_foldl`).  Such a fold
is summed up once, row by row for the tables (`foldl_appendAt`) and look-up by look-up for the dict
(`look_foldl_insertCp`: the dict itself is never described).  This gives the `ip` / `ln` tables of `toTables`
(`loadIp_ipLines`, `loadLn_lnLines`) and a dict that answers every `cp[prefix][level]` like the `cp` of `toTables`
(`loadCp_cpLines`: the lines of one prefix come from one entry, file order of the letters is kept);
`loadTables_spec` puts the three together.
-/
namespace Omen

/-- a run of `grammar[name][level].append(x)`, summed up row by row -/
theorem foldl_appendAt {α : Type} (ups : List (Nat × α)) (tbl : List (List α)) :
    ups.foldl (fun t u => appendAt t u.1 u.2) tbl =
      tbl.mapIdx fun l row => row ++ (ups.filter (·.1 == l)).map (·.2) := by
  induction ups generalizing tbl with
  | nil => exact (List.mapIdx_eq_iff.2 fun i => by simp).symm
  | cons u r ih =>
    rw [List.foldl_cons, ih]
    apply List.ext_getElem?
    intro i
    simp only [List.getElem?_mapIdx, appendAt, List.getElem?_modify, List.filter_cons, beq_iff_eq]
    cases tbl[i]? with
    | none => rfl
    | some row => by_cases h : u.1 = i <;> simp [h]

theorem mapIdx_replicate_nil {α : Type} (n : Nat) (f : Nat → List α) :
    ((List.replicate n ([] : List α)).mapIdx fun l row => row ++ f l) = (List.range n).map f := by
  apply List.ext_getElem?
  intro i
  simp only [List.getElem?_mapIdx, List.getElem?_map, List.getElem?_replicate]
  by_cases hi : i < n <;> simp [hi]

theorem loadIpGo_eq_foldl (maxLevel : Nat) (lines : List NLine) (tbl : List (List Str))
    (h : ∀ ln ∈ lines, ln.1 ≤ maxLevel) :
    loadIpGo maxLevel lines tbl = some (lines.foldl (fun t u => appendAt t u.1 u.2) tbl) := by
  induction lines generalizing tbl with
  | nil => rfl
  | cons ln r ih =>
    obtain ⟨h1, hr⟩ := List.forall_mem_cons.1 h
    rw [loadIpGo, if_pos h1, ih _ hr]; rfl

theorem loadIp_ipLines (t : TTables) (hip : ∀ e ∈ t.entries, e.ipLevel ≤ t.maxLevel) :
    loadIp t.maxLevel t.ipLines = some t.toTables.ipTbl := by
  rw [loadIp, TTables.ipLines, loadIpGo_eq_foldl _ _ _ (List.forall_mem_map.2 hip), foldl_appendAt,
    mapIdx_replicate_nil, toTables_ipTbl]
  simp only [List.filter_map, List.map_map]; rfl

theorem loadLnGo_eq_foldl (maxLevel minSize : Nat) (lines : List Nat) (cur : Nat) (tbl : List (List Nat))
    (h : ∀ l ∈ lines, l ≤ maxLevel) :
    loadLnGo maxLevel minSize cur lines tbl =
      some ((((lines.zipIdx cur).filter (minSize ≤ ·.2)).map fun p => (p.1, p.2 - (minSize - 1))).foldl
        (fun t u => appendAt t u.1 u.2) tbl) := by
  induction lines generalizing cur tbl with
  | nil => rfl
  | cons a r ih =>
    obtain ⟨ha, hr⟩ := List.forall_mem_cons.1 h
    rw [loadLnGo, if_pos ha, ih _ _ hr, List.zipIdx_cons, List.filter_cons]
    simp only [decide_eq_true_eq, ge_iff_le]
    split <;> rfl

theorem zipIdx_eq_map_range {α : Type} (l : List α) (d : α) (k : Nat) :
    l.zipIdx k = (List.range l.length).map fun i => (l.getD i d, k + i) := by
  apply List.ext_getElem?
  intro i
  by_cases hi : i < l.length <;> simp [hi]

theorem loadLn_lnLines (t : TTables) (hln : ∀ l ∈ t.lns, l ≤ t.maxLevel) :
    loadLn t.maxLevel t.ngram t.lnLines = some t.toTables.lnTbl := by
  rw [loadLn, TTables.lnLines, loadLnGo_eq_foldl _ _ _ _ _ hln, foldl_appendAt, mapIdx_replicate_nil, toTables_lnTbl]
  refine congrArg some (List.map_congr_left fun l _ => ?_)
  -- both rows as one `filterMap` over the line numbers
  rw [List.filter_map, List.map_map, List.filter_filter, ← List.filterMap_eq_map, List.filterMap_filter,
    zipIdx_eq_map_range _ 0, List.filterMap_map]
  simp only [TTables.lnRow, Function.comp_def, Nat.add_comm 1, Bool.and_eq_true, beq_iff_eq, decide_eq_true_eq]

/-- `cp[ip][l]` as the generator reads it -/
def look (cp : List (Str × List (Nat × List Char))) (ip : Str) (l : Nat) : Option (List Char) :=
  (assocGet cp ip).bind fun e => assocGet e l

theorem cpChars_eq_look (m : Model) (ip : Str) (l : Nat) : m.cpChars ip l = look m.cp ip l := rfl

section
variable (cp : List (Str × List (Nat × List Char))) (ip : Str) (l : Nat)

/-- `grammar['cp'][pre][lvl].append(c)` seen through look-ups: the list of `(pre, lvl)` grows by `c`,
everything else is untouched -/
theorem look_insertCp (pre : Str) (lvl : Nat) (c : Char) :
    look (insertCp cp pre lvl c) ip l =
      if ip == pre && l == lvl then some ((look cp ip l).getD [] ++ [c]) else look cp ip l := by
  unfold look insertCp
  rw [assocGet_assocUpd]
  by_cases h1 : ip == pre
  · obtain rfl : ip = pre := beq_iff_eq.mp h1
    simp only [h1, if_true, Option.bind_some, Bool.true_and, insertLvl, assocGet_assocUpd]
    by_cases h2 : l == lvl
    · rw [if_pos h2, if_pos h2, beq_iff_eq.1 h2]
      cases assocGet cp ip <;> rfl
    · rw [if_neg h2, if_neg h2]
      cases assocGet cp ip <;> rfl
  · simp [h1]

/-- what a run of appends does to one list (`none`: the dict has no such list yet) -/
def extend (o : Option (List Char)) (cs : List Char) : Option (List Char) :=
  if cs = [] then o else some (o.getD [] ++ cs)

theorem extend_extend (o : Option (List Char)) (a b : List Char) : extend (extend o a) b = extend o (a ++ b) := by
  cases a <;> cases b <;> simp [extend]

/-- a record `u = (level, prefix, letter)` stands for the line `(level, prefix ++ [letter])`; a line with an empty
n-gram would make `line[1][-1]` raise -/
theorem loadCpGo_eq_foldl (maxLevel : Nat) (ups : List (Nat × Str × Char)) (h : ∀ u ∈ ups, u.1 ≤ maxLevel) :
    loadCpGo maxLevel (ups.map fun u => (u.1, u.2.1 ++ [u.2.2])) cp =
      some (ups.foldl (fun cp u => insertCp cp u.2.1 u.1 u.2.2) cp) := by
  induction ups generalizing cp with
  | nil => rfl
  | cons u r ih =>
    obtain ⟨h1, hr⟩ := List.forall_mem_cons.1 h
    rw [List.map_cons, loadCpGo, if_pos h1, List.getLast?_concat, List.dropLast_concat]
    exact ih _ hr

theorem look_foldl_insertCp (ups : List (Nat × Str × Char)) :
    look (ups.foldl (fun cp u => insertCp cp u.2.1 u.1 u.2.2) cp) ip l =
      extend (look cp ip l) ((ups.filter fun u => ip == u.2.1 && l == u.1).map (·.2.2)) := by
  induction ups generalizing cp with
  | nil => rfl
  | cons u r ih =>
    rw [List.foldl_cons, ih, look_insertCp, List.filter_cons]
    split
    · exact extend_extend _ [u.2.2] _
    · rfl

end

theorem flatMap_ite_key {β : Type} (es : List TEntry) (hk : (es.map (·.key)).Nodup) (k : Str) (f : TEntry → List β) :
    es.flatMap (fun e => if k == e.key then f e else []) =
      match es.find? (·.key == k) with
      | none => []
      | some e => f e := by
  induction es with
  | nil => rfl
  | cons e r ih =>
    obtain ⟨hnot, hnd⟩ := List.nodup_cons.1 hk
    rw [List.flatMap_cons, List.find?_cons, ih hnd, BEq.comm]
    by_cases hke : e.key == k
    · have : r.find? (·.key == k) = none := List.find?_eq_none.2 fun x hx hxk =>
        hnot (List.mem_map.2 ⟨x, hx, (beq_iff_eq.1 hxk).trans (beq_iff_eq.1 hke).symm⟩)
      simp [hke, this]
    · simp [hke]

/-- the letters that entry `e` contributes to `cp[ip][l]`: its records are `(level, e.key, letter)` -/
theorem cpLetters_entry (e : TEntry) (ip : Str) (l : Nat) :
    ((e.next.map fun p => (p.2, e.key, p.1)).filter fun u => ip == u.2.1 && l == u.1).map (·.2.2) =
      if ip == e.key then e.charsAt l else [] := by
  rw [List.filter_map, List.map_map]
  cases h : ip == e.key <;> simp [h, TEntry.charsAt, Function.comp_def, BEq.comm (a := l)]

theorem loadCp_cpLines (t : TTables) (hg : t.Good) :
    ∃ cp, loadCp t.maxLevel t.cpLines = some cp ∧
      ∀ ip l, look cp ip l = t.toTables.m.cpChars ip l := by
  have hlines : t.cpLines = (t.entries.flatMap fun e => e.next.map fun p => (p.2, e.key, p.1)).map
      fun u => (u.1, u.2.1 ++ [u.2.2]) := by
    simp only [TTables.cpLines, List.map_flatMap, List.map_map]; rfl
  rw [loadCp, hlines, loadCpGo_eq_foldl _ _ _
    (List.forall_mem_flatMap.2 fun e he => List.forall_mem_map.2 (hg.cp_levels e he))]
  refine ⟨_, rfl, fun ip l => ?_⟩
  rw [look_foldl_insertCp, List.filter_flatMap, List.map_flatMap, toTables_cpChars t hg]
  simp only [cpLetters_entry]
  rw [flatMap_ite_key _ hg.keys_nodup, TTables.entry]
  cases t.entries.find? (·.key == ip) <;> rfl

/-- **the OMEN files of a trained ruleset load**, and what `load_rules` builds is `toTables` as far as the generator can
tell: the same `ip` and `ln` tables, the same `max_level`, and the same answer to every `cp[prefix][level]` look-up -/
theorem loadTables_spec (t : TTables) (hg : t.Good) :
    ∃ tb, t.loadTables = some tb ∧ tb.ipTbl = t.toTables.ipTbl ∧ tb.lnTbl = t.toTables.lnTbl ∧
      tb.m.maxLevel = t.toTables.m.maxLevel ∧ ∀ ip l, tb.m.cpChars ip l = t.toTables.m.cpChars ip l := by
  obtain ⟨cp, hcp, hlook⟩ := loadCp_cpLines t hg
  refine ⟨{ m := { maxLevel := t.maxLevel, cp := cp }, ipTbl := t.toTables.ipTbl, lnTbl := t.toTables.lnTbl }, ?_, rfl, rfl, rfl, hlook⟩
  rw [TTables.loadTables, loadIp_ipLines t hg.ip_levels, hcp, loadLn_lnLines t hg.ln_levels]

end Omen
