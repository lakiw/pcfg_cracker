import PcfgVerif.Model.RuleDir
import PcfgVerif.Lemmas.LoadMultiLemmas
/-! `save_indexed_counters`: which files a folder holds afterwards (exactly those `create_filename_list` names) and what is in them. -/
namespace Pcfg.RuleDir
variable {κ γ : Type}

theorem writeIn_names (dir : List (String × γ)) (fn : String) (c : γ) :
    (writeIn dir fn c).map (·.1) = (dir.map (·.1)).filter (· != fn) ++ [fn] := by
  simp [writeIn, List.filter_map, Function.comp_def]

theorem mem_writeIn (dir : List (String × γ)) (fn : String) (c : γ) (f : String) :
    f ∈ (writeIn dir fn c).map (·.1) ↔ f ∈ dir.map (·.1) ∨ f = fn := by
  rw [writeIn_names, List.mem_append, List.mem_filter, List.mem_singleton, bne_iff_ne]
  -- a name the folder held is still there unless it is the name written, which is there anyway
  refine ⟨Or.imp_left And.left, fun h => ?_⟩
  by_cases hf : f = fn
  · exact .inr hf
  · exact .inl ⟨h.resolve_right hf, hf⟩

theorem nodup_writeIn (dir : List (String × γ)) (fn : String) (c : γ) (hnd : (dir.map (·.1)).Nodup) :
    ((writeIn dir fn c).map (·.1)).Nodup := by
  rw [writeIn_names]
  exact List.nodup_concat (hnd.sublist List.filter_sublist) fun hm => bne_iff_ne.mp (List.mem_filter.mp hm).2 rfl

theorem names_foldl_writeIn (name : κ → String) (suffix : String) (counters : List (κ × γ)) (dir : List (String × γ))
    (hnd : (dir.map (·.1)).Nodup) :
    (∀ f, f ∈ (counters.foldl (fun dir kc => writeIn dir (name kc.1 ++ suffix) kc.2) dir).map (·.1) ↔
      f ∈ dir.map (·.1) ∨ f ∈ filenameList name suffix counters) ∧
    ((counters.foldl (fun dir kc => writeIn dir (name kc.1 ++ suffix) kc.2) dir).map (·.1)).Nodup := by
  induction counters generalizing dir with
  | nil => exact ⟨fun f => (or_iff_left List.not_mem_nil).symm, hnd⟩
  | cons kc rest ih =>
    have h := ih _ (nodup_writeIn dir (name kc.1 ++ suffix) kc.2 hnd)
    refine ⟨fun f => ?_, h.2⟩
    rw [List.foldl_cons, h.1 f, mem_writeIn, or_assoc]
    exact or_congr_right List.mem_cons.symm

theorem saveIndexed_lookup (name : κ → String) (suffix : String) (old : List (String × γ)) (counters : List (κ × γ))
    (hnd : (counters.map fun kc => name kc.1 ++ suffix).Nodup) (kc : κ × γ) (hkc : kc ∈ counters) :
    LoadMulti.lookup (saveIndexed name suffix old counters) (name kc.1 ++ suffix) = some kc.2 := by
  -- writing a file is an assignment: `writeIn` is `LoadMulti.setVar`
  show LoadMulti.lookup (counters.foldl (fun dir kc => LoadMulti.setVar dir (name kc.1 ++ suffix) kc.2) []) _ = _
  rw [Omen.get_foldl_set LoadMulti.lookup LoadMulti.setVar LoadMulti.lookup_setVar (fun kc : κ × γ => name kc.1 ++ suffix) (·.2),
    List.find?_reverse_of_nodup (fun kc : κ × γ => name kc.1 ++ suffix) counters hnd kc hkc]

end Pcfg.RuleDir
