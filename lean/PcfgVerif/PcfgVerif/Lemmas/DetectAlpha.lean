import PcfgVerif.Model.ScorerSpec
import PcfgVerif.Lemmas.DetectRuns
import PcfgVerif.Lemmas.DetectMulti
/-! The alpha detector: the first run of letters of the lower-cased section, cut into the multi-word parser's words. -/
namespace Pcfg.Detect

theorem build_nil (U : UEnv) (text : CPs) (cur : Nat) : detectAlpha.build U text [] cur = ([], []) := rfl

theorem build_cons (U : UEnv) (text : CPs) (w : CPs) (ws : List CPs) (cur : Nat) :
    detectAlpha.build U text (w :: ws) cur =
      ((slice text cur (cur + w.length), some (lbl 'A' w.length)) ::
          (detectAlpha.build U text ws (cur + w.length)).1,
       (slice text cur (cur + w.length)).map (fun c => if U.isUpper c then cpOf 'U' else cpOf 'L') ::
          (detectAlpha.build U text ws (cur + w.length)).2) := rfl

/-- the section an alpha record stands for -/
def recSec (r : AlphaRec) : Sec := (r.orig, some (lbl 'A' r.word.length))

/-- what the detector reports, from the records -/
def recsOut (recs : List AlphaRec) : List CPs × List CPs := (recs.map (·.word), recs.map (·.mask))

theorem slice_split (w : CPs) (cur n m : Nat) :
    slice w cur (cur + (n + m)) = slice w cur (cur + n) ++ slice w (cur + n) (cur + n + m) := by
  simp only [slice, Nat.add_sub_cancel_left]
  rw [List.take_add, List.drop_drop]

/-- The detector reports lower-cased words and masks, from which the section texts cannot be recovered; a record (`AlphaRec`)
keeps the three together.  What `build` makes of non-empty words that are what stands in `w` (the lower-cased text) from `cur`
on: one record per word, its section text the slice of `text` where the word is the slice of `w`; the sections tile `text`
from `cur` to the end of the words. -/
theorem build_spec (U : UEnv) (text w : CPs) (hwl : w.length = text.length) (words : List CPs)
    (hne : ∀ x ∈ words, x ≠ []) (cur : Nat) (hle : cur + words.flatten.length ≤ text.length)
    (heq : slice w cur (cur + words.flatten.length) = words.flatten) :
    ∃ recs : List AlphaRec, detectAlpha.build U text words cur = (recs.map recSec, recs.map (·.mask)) ∧
      recs.map (·.word) = words ∧
      (∀ r ∈ recs, r.mask = maskOfCP U r.orig ∧ r.word.length = r.orig.length ∧
        ∃ off, r.orig = slice text off (off + r.orig.length) ∧ r.word = slice w off (off + r.orig.length)) ∧
      ∀ rest, TilesFrom U text (cur + words.flatten.length) rest → TilesFrom U text cur (recs.map recSec ++ rest) := by
  induction words generalizing cur with
  | nil => exact ⟨[], rfl, rfl, nofun, fun rest h => by simpa using h⟩
  | cons a ws ih =>
    simp only [List.flatten_cons, List.length_append] at hle heq ⊢
    rw [slice_split] at heq
    have hal : 0 < a.length := List.length_pos_iff.mpr (hne a (.head _))
    have hol : (slice text cur (cur + a.length)).length = a.length := slice_length_add (by omega)
    obtain ⟨e1, e2⟩ := List.append_inj heq (slice_length_add (by omega))
    obtain ⟨recs, hb, hw, hr, ht⟩ := ih (fun x hx => hne x (.tail _ hx)) (cur + a.length) (by omega) e2
    refine ⟨⟨slice text cur (cur + a.length), a, maskOfCP U (slice text cur (cur + a.length))⟩ :: recs, ?_,
      by rw [List.map_cons, hw], ?_, fun rest h => ?_⟩
    · rw [build_cons, hb]; rfl
    · exact List.forall_mem_cons.mpr
        ⟨⟨rfl, hol.symm, cur, by simp only [hol], by simp only [hol]; exact e1.symm⟩, hr⟩
    · exact tilesFrom_cons_slice U text cur (cur + a.length) (some (lbl 'A' a.length))
        (by simpa using lbl_ne_W _ _) (by omega) (by omega) _ (ht rest (by rwa [Nat.add_assoc]))

theorem length_le_flatten (words : List CPs) (h : ∀ w ∈ words, w ≠ []) : words.length ≤ words.flatten.length := by
  induction words with
  | nil => simp
  | cons w ws ih =>
    have hw : 0 < w.length := List.length_pos_iff.mpr (h w (by simp))
    have := ih (fun x hx => h x (by simp [hx]))
    simp only [List.flatten_cons, List.length_append, List.length_cons]; omega

/-- what `detectAlpha` answers on a text whose lower-casing keeps its length: a cut around the sections of records, one per
word; the words are the first run of letters of the lower-cased text, cut up -/
theorem detectAlpha_cut (U : UEnv) (cfg : MWCfg) (t : MWTable) (text : CPs) (hl : LenPres U text)
    (pieces : List Sec) (f : List CPs × List CPs) (h : detectAlpha U cfg t text = some (pieces, f)) :
    ∃ s e recs, pieces = cut text s (e + 1) (recs.map recSec) ∧ f = recsOut recs ∧
      s ≤ e ∧ e < text.length ∧ recs ≠ [] ∧ recs.length ≤ e + 1 - s ∧
      (∀ c ∈ (U.lowerS text).take s, U.isAlpha c = false) ∧
      (∀ rest, TilesFrom U text (e + 1) rest → TilesFrom U text s (recs.map recSec ++ rest)) ∧
      ∀ r ∈ recs, (r.word ≠ [] ∧ ∀ c ∈ r.word, U.isAlpha c = true) ∧
        r.mask = maskOfCP U r.orig ∧ r.word.length = r.orig.length ∧
        ∃ off, r.orig = slice text off (off + r.orig.length) ∧
          r.word = slice (U.lowerS text) off (off + r.orig.length) := by
  unfold detectAlpha at h
  simp only at h
  split at h
  · cases h
  next s e hfr =>
  simp only [Option.some.injEq, Prod.mk.injEq] at h
  obtain ⟨hp, rfl⟩ := h
  obtain ⟨hse, he, hpre, hrun, _⟩ := firstRun_spec hfr
  have hlen : (slice (U.lowerS text) s (e + 1)).length = e + 1 - s := slice_length_of_le he
  have hne : slice (U.lowerS text) s (e + 1) ≠ [] :=
    List.ne_nil_of_length_pos (hlen ▸ Nat.sub_pos_of_lt (Nat.lt_succ_of_le hse))
  rw [lenPres_length U text hl] at he
  obtain ⟨hflat, hwne⟩ := mwParse_words cfg t _ hne
  generalize (mwParse cfg t _).2 = words at hp hflat hwne ⊢
  have hfl : s + words.flatten.length = e + 1 := by rw [hflat, hlen, Nat.add_sub_cancel' (Nat.le_succ_of_le hse)]
  obtain ⟨recs, hb, rfl, hr, ht⟩ := build_spec U text (U.lowerS text) (lenPres_length U text hl) words hwne s
    (by omega) (by rw [hfl]; exact hflat.symm)
  rw [hb] at hp ⊢
  have := length_le_flatten _ hwne
  rw [List.length_map] at this
  refine ⟨s, e, recs, hp ▸ cut_eq text s (e + 1) _ _ _ (by simp) (by simp; omega), rfl, hse, he,
    fun h0 => hne (by rw [← hflat, h0]; rfl), by omega, hpre, hfl ▸ ht, fun r hr' => ⟨⟨?_, fun c hc => ?_⟩, hr r hr'⟩⟩
  · exact hwne _ (List.mem_map_of_mem hr')
  · exact hrun c (hflat ▸ List.mem_flatten.mpr ⟨_, List.mem_map_of_mem hr', hc⟩)

theorem detectAlpha_ok (U : UEnv) (cfg : MWCfg) (t : MWTable) : DetectorOK U (detectAlpha U cfg t) := by
  intro text pieces f _ hl h
  obtain ⟨s, e, recs, rfl, -, hse, he, hne, -, -, ht, -⟩ := detectAlpha_cut U cfg t text hl pieces f h
  exact tiles_cut U text s (e + 1) _ (mt List.map_eq_nil_iff.mp hne) (by omega) (by omega) ht

/-- what is known of a record of a word found in a password: the per-record clause of `Coherent.alpha` -/
def RecOK (U : UEnv) (pw : CPs) (r : AlphaRec) : Prop :=
  r.mask = maskOfCP U r.orig ∧ r.word.length = r.orig.length ∧ LowerOf U pw r.orig r.word

/-- the pair an alpha record's section contributes -/
def recPair (r : AlphaRec) : String × CPs := (lbl 'A' r.orig.length, r.orig)

theorem labelled_recSec : ∀ recs : List AlphaRec, (∀ r ∈ recs, r.word.length = r.orig.length) →
    labelled (recs.map recSec) = recs.map recPair
  | [], _ => rfl
  | r :: rs, h => by
    rw [List.map_cons, List.map_cons, ← labelled_recSec rs fun x hx => h x (by simp [hx])]
    simp [recSec, recPair, labelled_cons_some, h r (by simp)]

theorem detectAlpha_labelled (U : UEnv) (cfg : MWCfg) (t : MWTable) (pw text : CPs)
    (pieces : List Sec) (f : List CPs × List CPs) (hl : LenPres U text)
    (hs : ∃ a b, text = slice pw a b) (h : detectAlpha U cfg t text = some (pieces, f)) :
    ∃ recs, f = recsOut recs ∧ labelled pieces = recs.map recPair ∧ ∀ r ∈ recs, RecOK U pw r := by
  obtain ⟨s, e, recs, rfl, rfl, -, -, -, -, -, -, hr⟩ := detectAlpha_cut U cfg t text hl pieces f h
  refine ⟨recs, rfl, ?_, fun r hr' => ?_⟩
  · rw [labelled_cut]
    exact labelled_recSec _ fun r hr' => (hr r hr').2.2.1
  · obtain ⟨-, h1, h2, off, h3, h4⟩ := hr r hr'
    obtain ⟨a, b, rfl⟩ := hs
    exact ⟨h1, h2, a, b, off, h3, h4⟩

/-! After `alpha_detection` no unlabelled section contains a letter.  The detector looks for letter runs in the lower-cased
section.  `AlphaPosT U T`: lower-casing `T` changes the alpha-ness of no position — a fact about CPython's Unicode tables
(`c.lower().isalpha() == c.isalpha()` for every code point whose lower-casing is one character; final sigma has two lower-case
forms, both letters), validated exhaustively by the harness on every run. -/

def AlphaPosT (U : UEnv) (T : CPs) : Prop :=
  ∀ i : Nat, ((U.lowerS T)[i]?).map U.isAlpha = (T[i]?).map U.isAlpha

/-- the law holds for the text and all its substrings, and lower-casing keeps their lengths -/
def GoodA (U : UEnv) (T : CPs) : Prop := LenPres U T ∧ ∀ c d, AlphaPosT U (slice T c d)

def NoAlpha (U : UEnv) (text : CPs) : Prop := ∀ c ∈ text, U.isAlpha c = false

theorem noAlpha_slice (U : UEnv) (text : CPs) (a b : Nat) (h : NoAlpha U text) : NoAlpha U (slice text a b) :=
  fun c hc => h c (List.mem_of_mem_drop (List.mem_of_mem_take hc))

theorem goodA_slice (U : UEnv) (T : CPs) (a b : Nat) (h : GoodA U T) : GoodA U (slice T a b) := by
  refine ⟨lenPres_slice U T a b h.1, fun c d => ?_⟩
  rw [slice_slice]
  exact h.2 _ _

theorem noAlpha_of_lower (U : UEnv) (text : CPs) (hg : GoodA U text) (n : Nat)
    (h : ∀ c ∈ (U.lowerS text).take n, U.isAlpha c = false) : NoAlpha U (text.take n) := by
  have hpos := hg.2 0 text.length
  rw [slice_zero_length] at hpos
  intro c hc
  obtain ⟨i, hi, rfl⟩ := List.mem_take_iff_getElem.mp hc
  have hi' : i < (U.lowerS text).length := by rw [lenPres_length U text hg.1]; omega
  have := hpos i
  rw [List.getElem?_eq_getElem hi', List.getElem?_eq_getElem (by omega)] at this
  simp only [Option.map_some, Option.some.injEq] at this
  rw [← this]
  exact h _ (List.mem_take_iff_getElem.mpr ⟨i, by omega, rfl⟩)

theorem detectAlpha_exhausts (U : UEnv) (cfg : MWCfg) (t : MWTable) :
    Exhausts (detectAlpha U cfg t) (GoodA U) (NoAlpha U) where
  good_slice text a b := goodA_slice U text a b
  none_clean text hg h := by
    have hfr : firstRun U.isAlpha (U.lowerS text) = none := by
      unfold detectAlpha at h
      simp only at h
      split at h
      · assumption
      · cases h
    have := noAlpha_of_lower U text hg text.length fun c hc => firstRun_none _ _ hfr c (List.mem_of_mem_take hc)
    rwa [List.take_length] at this
  some_cut text pieces f hg h := by
    obtain ⟨s, e, recs, rfl, -, hse, he, hne, hlen, hpre, -⟩ := detectAlpha_cut U cfg t text hg.1 pieces f h
    refine ⟨s, e + 1, _, rfl, by omega, fun p hp => ?_, mt List.map_eq_nil_iff.mp hne, by rwa [List.length_map],
      fun _ => noAlpha_of_lower U text hg s hpre⟩
    obtain ⟨r, _, rfl⟩ := List.mem_map.mp hp
    exact nofun

end Pcfg.Detect
