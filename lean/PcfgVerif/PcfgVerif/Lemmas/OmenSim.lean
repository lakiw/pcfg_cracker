import PcfgVerif.Lemmas.OmenLoad
import PcfgVerif.Lemmas.OmenKeyspace
/-!
# The generator cannot tell two `cp` dicts apart that answer every look-up alike

Every function of the generator model reads `cp` through `cpChars` (`cp[prefix][level]`) only.  Hence what is proved about
`toTables` (C10, C11, C18) holds for the tables the loader model builds from the files.
-/
namespace Omen

theorem findCp_go_congr (bottom : Nat) {e1 e2 : List (Nat × List Char)}
    (he : ∀ l, lvlChars e1 l = lvlChars e2 l) :
    ∀ fuel t, Model.findCp.go bottom e1 fuel t = Model.findCp.go bottom e2 fuel t
  | 0, _ => rfl
  | n + 1, t => by simp only [Model.findCp.go, he, findCp_go_congr bottom he n]

structure Model.Sim (m1 m2 : Model) : Prop where
  maxLevel : m1.maxLevel = m2.maxLevel
  chars : ∀ ip l, m1.cpChars ip l = m2.cpChars ip l

variable {m1 m2 : Model}

theorem Model.Sim.findCp (h : m1.Sim m2) (ip : Str) (top bottom : Nat) :
    m1.findCp ip top bottom = m2.findCp ip top bottom := by
  rw [findCp_eq_go, findCp_eq_go, h.maxLevel]
  exact findCp_go_congr bottom (fun l => by rw [lvlChars_getD, lvlChars_getD, h.chars]) _ _

theorem Model.Sim.chars_eq (h : m1.Sim m2) (ip : Str) (l : Nat) : m1.chars ip l = m2.chars ip l :=
  congrArg (·.getD []) (h.chars ip l)

theorem Model.Sim.charAt (h : m1.Sim m2) (it : Item) : m1.charAt it = m2.charAt it :=
  congrArg (·.bind (·[it.idx]?)) (h.chars it.ip it.lvl)

/-! Each function below is unfolded once and rewritten with the congruences of the functions it calls:
the `simp only` sets list every way in which it reads the model. -/

theorem Model.Sim.fillLevels (h : m1.Sim m2) (rec : Str → Nat → Option (List Item)) (ip : Str) (target : Nat)
    (fuel cur : Nat) : m1.fillLevels rec ip target fuel cur = m2.fillLevels rec ip target fuel cur := by
  induction fuel generalizing cur with
  | zero => rfl
  | succ n ih => simp only [Model.fillLevels, h.findCp, ih]

/-- stated of `fill len` as a function, which is what `fill (len + 2)` hands to `fillLevels` -/
theorem Model.Sim.fill (h : m1.Sim m2) : ∀ len, m1.fill len = m2.fill len
  | 0 => rfl
  | 1 => by funext ip target; simp only [Model.fill, h.findCp]
  | len + 2 => by funext ip target; simp only [Model.fill, Model.Sim.fill h (len + 1), h.fillLevels]

theorem Model.Sim.tryIdxs (h : m1.Sim m2) (elemIp : Str) (reqLen tgt : Nat) (i : Nat) (cs : List Char) :
    m1.tryIdxs elemIp reqLen tgt i cs = m2.tryIdxs elemIp reqLen tgt i cs := by
  induction cs generalizing i with
  | nil => rfl
  | cons c rest ih => simp only [Model.tryIdxs, h.fill, ih]

theorem Model.Sim.descend (h : m1.Sim m2) (lastIp elemIp : Str) (reqLen reqLevel : Nat) (fuel dl i : Nat) :
    m1.descend lastIp elemIp reqLen reqLevel fuel dl i = m2.descend lastIp elemIp reqLen reqLevel fuel dl i := by
  induction fuel generalizing dl i with
  | zero => rfl
  | succ n ih => simp only [Model.descend, h.tryIdxs, h.chars_eq, h.findCp, ih]

theorem Model.Sim.outer (h : m1.Sim m2) (stackRev : List Item) (element : Item) (reqLen reqLevel : Nat) :
    m1.outer stackRev element reqLen reqLevel = m2.outer stackRev element reqLen reqLevel := by
  induction stackRev generalizing element reqLen reqLevel with
  | nil => rfl
  | cons last below ih => simp only [Model.outer, h.descend, ih]

theorem Model.Sim.nextTree (h : m1.Sim m2) (t : List Item) : m1.nextTree t = m2.nextTree t := by
  simp only [Model.nextTree, h.chars_eq, h.outer]

structure Tables.Sim (t1 t2 : Tables) : Prop where
  ip : t1.ipTbl = t2.ipTbl
  ln : t1.lnTbl = t2.lnTbl
  m : t1.m.Sim t2.m

variable {t1 t2 : Tables}

theorem Tables.Sim.gsNext (h : t1.Sim t2) (target : Nat) (s : CState) : t1.gsNext target s = t2.gsNext target s := by
  simp only [Tables.gsNext, Tables.gsTarget, Tables.curLen, Tables.curIp, h.ip, h.ln, h.m.fill,
    h.m.nextTree]

theorem Tables.Sim.increaseIp (h : t1.Sim t2) (target : Nat) (c : Cursor) :
    t1.increaseIp target c = t2.increaseIp target c := by
  unfold Tables.increaseIp
  rw [h.ip, h.m.maxLevel]

theorem Tables.Sim.increaseLen (h : t1.Sim t2) (target startIp : Nat) (c : Cursor) :
    t1.increaseLen target startIp c = t2.increaseLen target startIp c := by
  unfold Tables.increaseLen
  rw [h.ln, h.m.maxLevel]

theorem Tables.Sim.seek (h : t1.Sim t2) (target startIp fuel : Nat) (s : CState) :
    t1.seek target startIp fuel s = t2.seek target startIp fuel s := by
  induction fuel generalizing s with
  | zero => rfl
  | succ n ih => simp only [Tables.seek, h.gsNext, h.increaseIp, h.increaseLen, ih]

theorem Tables.Sim.start (h : t1.Sim t2) : t1.start = t2.start := by
  unfold Tables.start
  rw [h.ip, h.ln, h.m.maxLevel]

theorem Tables.Sim.next (h : t1.Sim t2) (target : Nat) (s : CState) : t1.next target s = t2.next target s := by
  simp only [Tables.next, h.seek, Tables.pairCount, Tables.curIp, h.ip, h.ln, h.m.maxLevel,
    funext h.m.charAt]

theorem Tables.Sim.enumFrom (h : t1.Sim t2) (target fuel : Nat) (s : CState) :
    t1.enumFrom target fuel s = t2.enumFrom target fuel s := by
  induction fuel generalizing s with
  | zero => rfl
  | succ n ih => simp only [Tables.enumFrom, h.next, ih]

/-- `emitted_spec` for the tables the loader builds from the trainer's files: no `toTables` is run -/
theorem emitted_spec_files (t : TTables) (hg : t.Good) (level : Nat) :
    ∃ tb, t.loadTables = some tb ∧ tb.start = t.toTables.start ∧ ∀ s0, tb.start = some s0 →
      ∃ E N, (∀ fuel, N ≤ fuel → tb.enumFrom level fuel s0 = E) ∧ E.Nodup ∧
        (∀ s, s ∈ E ↔ t.trainerLevel s = some level) ∧ E.length = t.levelKeyspace level := by
  obtain ⟨tb, hload, h2, h3, h4, h5⟩ := loadTables_spec t hg
  have hsim : tb.Sim t.toTables := ⟨h2, h3, ⟨h4, h5⟩⟩
  refine ⟨tb, hload, hsim.start, fun s0 hs0 => ?_⟩
  simp only [hsim.enumFrom]
  exact emitted_spec t hg level s0 (hsim.start ▸ hs0)

end Omen
