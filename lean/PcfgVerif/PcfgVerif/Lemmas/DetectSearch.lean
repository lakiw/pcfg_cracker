import PcfgVerif.Lemmas.DetectTiling
/-!
# Substring search, and the two searches built on it

`findSub` finds the first occurrence.  The loop of `detect_website` for one top-level domain (`tldOccurrence`) and the loop of
`detect_year` for one prefix (`yearScan`) go from occurrence to occurrence until one passes their test.  Their invariant is that
every occurrence in front of the place reached has failed the test: a rejected occurrence hands it on to its own end, as the
patterns of the tables cannot overlap themselves (`BorderFree`, `rejected_behind`), and the search from any place hands it on to
the occurrence it finds (`findSub_drop_rejected`).  So what the loops return is the first occurrence that passes their test.
-/
namespace Pcfg.Detect
open Generated.Tables

theorem tld_ne_nil : ∀ t ∈ tldList, 0 < t.length := by decide +kernel
theorem context_ne_nil : ∀ t ∈ contextList, 0 < t.length := by decide +kernel
theorem yearPrefix_length : ∀ t ∈ yearPrefixes, t.length = 2 := by decide +kernel

/-- `pat` stands in `s` at index `i` -/
def OccursAt (s pat : CPs) (i : Nat) : Prop := i + pat.length ≤ s.length ∧ (s.drop i).take pat.length = pat

theorem occursAt_slice {s pat : CPs} {i : Nat} (h : OccursAt s pat i) : slice s i (i + pat.length) = pat := by
  simpa [slice] using h.2

theorem occursAt_get (s pat : CPs) (i : Nat) (h : OccursAt s pat i) (d : Nat) (hd : d < pat.length) :
    s[i + d]? = pat[d]? := by
  have : ((s.drop i).take pat.length)[d]? = pat[d]? := by rw [h.2]
  rwa [List.getElem?_take_of_lt hd, List.getElem?_drop] at this

theorem occursAt_drop {w pat : CPs} {t e : Nat} (hpos : 0 < pat.length) :
    OccursAt (w.drop t) pat e ↔ OccursAt w pat (t + e) := by
  simp only [OccursAt, List.length_drop, List.drop_drop]
  exact and_congr_left' (by omega)

theorem findFrom_eq_find? (s pat : CPs) (fuel i : Nat) :
    findFrom s pat fuel i = (List.range' i fuel).find? fun j =>
      (s.drop j).take pat.length == pat && decide (j + pat.length ≤ s.length) := by
  induction fuel generalizing i with
  | zero => rfl
  | succ n ih =>
    rw [findFrom, ih, List.range'_succ, List.find?_cons]
    cases (s.drop i).take pat.length == pat && decide (i + pat.length ≤ s.length) <;> rfl

theorem occursAt_test {s pat : CPs} {j : Nat} :
    ((s.drop j).take pat.length == pat && decide (j + pat.length ≤ s.length)) = true ↔ OccursAt s pat j := by
  simp [OccursAt, and_comm]

theorem findFrom_eq_some_iff {s pat : CPs} {fuel i j : Nat} : findFrom s pat fuel i = some j ↔
    OccursAt s pat j ∧ (i ≤ j ∧ j < i + fuel) ∧ ∀ k, i ≤ k → k < j → ¬ OccursAt s pat k := by
  rw [findFrom_eq_find?, List.find?_range'_eq_some]
  simp only [Bool.not_eq_true', ← Bool.not_eq_true, occursAt_test, List.mem_range'_1]

theorem findFrom_eq_none_iff {s pat : CPs} {fuel i : Nat} : findFrom s pat fuel i = none ↔
    ∀ k, i ≤ k → k < i + fuel → ¬ OccursAt s pat k := by
  rw [findFrom_eq_find?, List.find?_range'_eq_none]
  simp only [Bool.not_eq_true', ← Bool.not_eq_true, occursAt_test]

theorem findFrom_first (s pat : CPs) : ∀ (fuel i j : Nat), findFrom s pat fuel i = some j →
    i ≤ j ∧ ∀ k, i ≤ k → k < j → ¬ OccursAt s pat k :=
  fun _ _ _ h => have ⟨_, hi, hk⟩ := findFrom_eq_some_iff.mp h; ⟨hi.1, hk⟩

theorem findFrom_none (s pat : CPs) : ∀ (fuel i : Nat), findFrom s pat fuel i = none →
    ∀ k, i ≤ k → k < i + fuel → ¬ OccursAt s pat k :=
  fun _ _ => findFrom_eq_none_iff.mp

theorem findSub_eq_some_iff {s pat : CPs} {j : Nat} :
    findSub s pat = some j ↔ OccursAt s pat j ∧ ∀ k, k < j → ¬ OccursAt s pat k := by
  rw [findSub, findFrom_eq_some_iff]
  exact ⟨fun ⟨h1, _, h3⟩ => ⟨h1, fun k hk => h3 k k.zero_le hk⟩,
    fun ⟨h1, h3⟩ => ⟨h1, ⟨j.zero_le, by have := h1.1; omega⟩, fun k _ hk => h3 k hk⟩⟩

theorem findSub_eq_none_iff {s pat : CPs} : findSub s pat = none ↔ ∀ k, ¬ OccursAt s pat k := by
  rw [findSub, findFrom_eq_none_iff]
  exact ⟨fun h k hk => h k k.zero_le (by have := hk.1; omega) hk, fun h k _ _ => h k⟩

theorem findSub_isSome_iff (s pat : CPs) : (findSub s pat).isSome = true ↔ ∃ k, OccursAt s pat k :=
  Option.isSome_iff_ne_none.trans ((not_congr findSub_eq_none_iff).trans Classical.not_forall_not)

theorem rfindSub_some {s pat : CPs} {j : Nat} (h : rfindSub s pat = some j) : OccursAt s pat j :=
  have := List.find?_some h
  occursAt_test.mp this

/-- no proper suffix of `pat` is a prefix of it (pointwise: shifted by any `d`, some position differs) -/
def BorderFree (pat : CPs) : Prop :=
  ∀ d, d < pat.length → 0 < d → ∃ j, j < pat.length ∧ d + j < pat.length ∧ pat[d + j]? ≠ pat[j]?

instance (pat : CPs) : Decidable (BorderFree pat) := by unfold BorderFree; infer_instance

/-- no top-level domain of the table can overlap itself (also not `.nl.se`, the entry the source's list really has) -/
theorem tld_border_free : ∀ t ∈ tldList, BorderFree t := by decide +kernel
theorem yearPrefix_border_free : ∀ p ∈ yearPrefixes, BorderFree p := by decide +kernel

theorem no_self_overlap (s pat : CPs) (hb : BorderFree pat) (t k : Nat)
    (h1 : OccursAt s pat t) (h2 : OccursAt s pat k) (hlt : t < k) (hov : k < t + pat.length) : False := by
  obtain ⟨j, hj, hdj, hne⟩ := hb (k - t) (by omega) (by omega)
  have e1 := occursAt_get s pat k h2 j hj
  have e2 := occursAt_get s pat t h1 (k - t + j) hdj
  rw [show t + (k - t + j) = k + j by omega, e1] at e2
  exact hne e2.symm

section
variable {w pat : CPs} {ok : Nat → Bool}

theorem rejected_behind (hb : BorderFree pat) {t : Nat} (hocc : OccursAt w pat t) (hc : ok t = false)
    (hrej : ∀ k, k < t → OccursAt w pat k → ok k = false) :
    ∀ k, k < t + pat.length → OccursAt w pat k → ok k = false := fun k hk hko =>
  if h : k < t then hrej k h hko
  else if e : k = t then e ▸ hc
  else (no_self_overlap w pat hb t k hocc hko (by omega) hk).elim

theorem findSub_drop_rejected {a : Nat} (hpos : 0 < pat.length) (hrej : ∀ k, k < a → OccursAt w pat k → ok k = false) :
    match findSub (w.drop a) pat with
    | some e => OccursAt w pat (a + e) ∧ ∀ k, k < a + e → OccursAt w pat k → ok k = false
    | none => ∀ k, OccursAt w pat k → ok k = false := by
  have back : ∀ k, ¬ k < a → OccursAt w pat k → OccursAt (w.drop a) pat (k - a) := fun k hk h =>
    (occursAt_drop hpos).2 (by rwa [show a + (k - a) = k by omega])
  cases h : findSub (w.drop a) pat with
  | some e =>
    have := findSub_eq_some_iff.mp h
    exact ⟨(occursAt_drop hpos).1 this.1, fun k hk hko =>
      if c : k < a then hrej k c hko else (this.2 _ (by omega) (back k c hko)).elim⟩
  | none => exact fun k hko => if c : k < a then hrej k c hko else (findSub_eq_none_iff.mp h _ (back k c hko)).elim

end

/-! `tldOccurrence` mirrors the loop of `detect_website` (`lib_trainer/detection_rules/website_detection.py`):
`end_index = working_string.find(tld)`, and while the character behind the occurrence is a letter or a dot (and the occurrence
does not end the string) the search goes on behind it. -/

/-- the occurrence at `t` ends a host name: nothing follows, or what follows is neither a letter nor a dot -/
def endsHost (U : UEnv) (w tld : CPs) (t : Nat) : Bool :=
  !(t != w.length - tld.length &&
      (U.isAlpha (w.getD (t + tld.length) 0) || w.getD (t + tld.length) 0 == cpOf '.'))

/-- The loop, from a state that has rejected every occurrence in front of the candidate and has fuel left for the rest of the
string: it returns the first occurrence that ends a host name, and none only if there is none. -/
theorem tldOccurrence_run (U : UEnv) (w tld : CPs) (hb : BorderFree tld) (hpos : 0 < tld.length)
    (fuel : Nat) (o : Option Nat)
    (hinv : ∀ t, o = some t → OccursAt w tld t ∧ w.length + 1 ≤ fuel + t ∧
        ∀ k, k < t → OccursAt w tld k → endsHost U w tld k = false)
    (hn : o = none → ∀ k, ¬ OccursAt w tld k) :
    match tldOccurrence U w tld fuel o with
    | some total => OccursAt w tld total ∧ endsHost U w tld total = true ∧
        ∀ k, k < total → OccursAt w tld k → endsHost U w tld k = false
    | none => ∀ k, OccursAt w tld k → endsHost U w tld k = false := by
  -- the cases are the five branches of `tldOccurrence`, in the order of its definition
  fun_induction tldOccurrence U w tld fuel o with
  | case1 o =>
    cases o with
    | none => exact fun k hk => (hn rfl k hk).elim
    | some t => have ⟨hocc, hf, _⟩ := hinv t rfl; have := hocc.1; omega
  | case2 => exact fun k hk => (hn rfl k hk).elim
  | case3 fuel t hc t' hf =>
    have ⟨hocc, _, hrej⟩ := hinv t rfl
    have next := findSub_drop_rejected hpos (rejected_behind hb hocc (by rw [endsHost, hc, Bool.not_true]) hrej)
    rwa [hf] at next
  | case4 fuel t hc t' e hf ih =>
    have ⟨hocc, hfu, hrej⟩ := hinv t rfl
    have next := findSub_drop_rejected hpos (rejected_behind hb hocc (by rw [endsHost, hc, Bool.not_true]) hrej)
    rw [hf] at next
    exact ih (fun _ ht => Option.some.inj ht ▸ ⟨next.1, by omega, next.2⟩) nofun
  | case5 fuel t hc =>
    exact ⟨(hinv t rfl).1, by rw [endsHost, Bool.eq_false_iff.mpr hc, Bool.not_false], (hinv t rfl).2.2⟩

theorem tldOccurrence_none (U : UEnv) (w tld : CPs) (hb : BorderFree tld) (hpos : 0 < tld.length) :
    ∀ (fuel : Nat) (o : Option Nat),
    (∀ t, o = some t → OccursAt w tld t ∧ w.length + 1 ≤ fuel + t ∧
        ∀ k, k < t → OccursAt w tld k → endsHost U w tld k = false) →
    (o = none → ∀ k, ¬ OccursAt w tld k) →
    tldOccurrence U w tld fuel o = none →
    ∀ k, OccursAt w tld k → endsHost U w tld k = false := by
  intro fuel o hinv hn h
  have := tldOccurrence_run U w tld hb hpos fuel o hinv hn
  rwa [h] at this

/-- the search as `detect_website` starts it -/
theorem tldSearch_spec (U : UEnv) (w tld : CPs) (hm : tld ∈ tldList) :
    match tldOccurrence U w tld (w.length + 1) (findSub w tld) with
    | some total => OccursAt w tld total ∧ endsHost U w tld total = true ∧
        ∀ k, k < total → OccursAt w tld k → endsHost U w tld k = false
    | none => ∀ k, OccursAt w tld k → endsHost U w tld k = false :=
  tldOccurrence_run U w tld (tld_border_free tld hm) (tld_ne_nil tld hm) _ _
    (fun t ht => have hf := findSub_eq_some_iff.mp ht; ⟨hf.1, by omega, fun k hk hko => (hf.2 k hk hko).elim⟩)
    findSub_eq_none_iff.mp

/-- **the search of `detect_website` for one top-level domain**: what it returns is the first occurrence of the domain, from the
left, that ends a host name -/
theorem tldSearch_first_host_end (U : UEnv) (w tld : CPs) (hm : tld ∈ tldList) (total : Nat)
    (h : tldOccurrence U w tld (w.length + 1) (findSub w tld) = some total) :
    OccursAt w tld total ∧ endsHost U w tld total = true ∧
      ∀ k, k < total → OccursAt w tld k → endsHost U w tld k = false := by
  have := tldSearch_spec U w tld hm
  rwa [h] at this

/-- **a top-level domain makes the string a website exactly when one of its occurrences ends a host name** -/
theorem tldSearch_finds_iff (U : UEnv) (w tld : CPs) (hm : tld ∈ tldList) :
    (tldOccurrence U w tld (w.length + 1) (findSub w tld)).isSome = true ↔
      ∃ k, OccursAt w tld k ∧ endsHost U w tld k = true := by
  have := tldSearch_spec U w tld hm
  generalize tldOccurrence U w tld (w.length + 1) (findSub w tld) = r at this ⊢
  cases r with
  | none => exact ⟨nofun, fun ⟨k, hk, hok⟩ => by rw [this k hk] at hok; cases hok⟩
  | some t => exact ⟨fun _ => ⟨t, this.1, this.2.1⟩, fun _ => rfl⟩

/-! `yearScan` mirrors the `while True` loop of `detect_year` (`lib_trainer/detection_rules/year_detection.py`) for one prefix
(`19` / `20`): find the prefix, give up when fewer than four characters are left, go on two characters further when the
candidate is preceded or followed by a digit or its last two characters are not digits. -/

/-- the four characters at `si` are a year: they are there, no digit in front, no digit behind, two digits after the prefix -/
def yearOk (U : UEnv) (w : CPs) (si : Nat) : Bool :=
  !(decide (w.length < si + 4)) &&
  !(si != 0 && U.isDigit (w.getD (si - 1) 0)) &&
  !(decide (si + 4 < w.length) && U.isDigit (w.getD (si + 4) 0)) &&
  (U.isDigit (w.getD (si + 2) 0) && U.isDigit (w.getD (si + 3) 0))

theorem yearOk_digits {U : UEnv} {w : CPs} {si : Nat} (h : yearOk U w si = true) :
    si + 4 ≤ w.length ∧ U.isDigit (w.getD (si + 2) 0) = true ∧ U.isDigit (w.getD (si + 3) 0) = true := by
  simp only [yearOk, Bool.and_eq_true, Bool.not_eq_true', decide_eq_false_iff_not] at h
  exact ⟨by omega, h.2⟩

/-- The loop, from a place in front of which no occurrence of the prefix is a year. -/
theorem yearScan_run (U : UEnv) (w pre : CPs) (hb : BorderFree pre) (hlen : pre.length = 2) (fuel start si : Nat)
    (hrej : ∀ k, k < start → OccursAt w pre k → yearOk U w k = false)
    (h : yearScan U w pre fuel start = some si) :
    OccursAt w pre si ∧ yearOk U w si = true ∧ ∀ k, k < si → OccursAt w pre k → yearOk U w k = false := by
  -- the search finds an occurrence with no year in front of it; if it is not a year either, there is none in front of its end
  have next : ∀ {start rel : Nat}, (∀ k, k < start → OccursAt w pre k → yearOk U w k = false) →
      findSub (w.drop start) pre = some rel →
      OccursAt w pre (rel + start) ∧ (∀ k, k < rel + start → OccursAt w pre k → yearOk U w k = false) ∧
        (yearOk U w (rel + start) = false → ∀ k, k < rel + start + 2 → OccursAt w pre k → yearOk U w k = false) := by
    intro start rel hrej hrel
    have hf := findSub_drop_rejected (by omega) hrej
    simp only [hrel, Nat.add_comm start] at hf
    exact ⟨hf.1, hf.2, fun hc => hlen ▸ rejected_behind hb hf.1 hc hf.2⟩
  -- the cases are the seven branches of `yearScan`, in the order of its definition; its three tests are those of `yearOk`
  fun_induction yearScan U w pre fuel start with
  | case1 => cases h
  | case2 => cases h
  | case3 => cases h
  | case4 fuel start rel hrel si' h0 start' h1 ih =>
    exact ih ((next hrej hrel).2.2 (by rw [yearOk, h1]; simp only [Bool.not_true, Bool.and_false, Bool.false_and])) h
  | case5 fuel start rel hrel si' h0 start' h1 h2 ih =>
    exact ih ((next hrej hrel).2.2 (by rw [yearOk, h2]; simp only [Bool.not_true, Bool.and_false, Bool.false_and])) h
  | case6 fuel start rel hrel si' h0 h1 h2 h3 =>
    obtain rfl : rel + start = si := Option.some.inj h
    refine ⟨(next hrej hrel).1, ?_, (next hrej hrel).2.1⟩
    rw [yearOk, Bool.eq_false_iff.mpr h1, Bool.eq_false_iff.mpr h2, h3, decide_eq_false h0]; rfl
  | case7 fuel start rel hrel si' h0 start' h1 h2 h3 ih =>
    exact ih ((next hrej hrel).2.2 (by rw [yearOk, Bool.eq_false_iff.mpr h3, Bool.and_false])) h

/-- **the search of `detect_year` for one prefix**: what it returns is the first occurrence of the prefix, from the left, whose four
characters are a year -/
theorem yearSearch_first_year (U : UEnv) (w pre : CPs) (hm : pre ∈ yearPrefixes) (si : Nat)
    (h : yearScan U w pre (w.length + 1) 0 = some si) :
    OccursAt w pre si ∧ yearOk U w si = true ∧ ∀ k, k < si → OccursAt w pre k → yearOk U w k = false :=
  yearScan_run U w pre (yearPrefix_border_free pre hm) (yearPrefix_length pre hm) _ 0 si nofun h

end Pcfg.Detect
