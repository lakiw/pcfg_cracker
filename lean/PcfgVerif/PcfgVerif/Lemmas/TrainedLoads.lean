import PcfgVerif.Lemmas.TrainedFolder
import PcfgVerif.Lemmas.TrainedSections
/-! The terminal part of a trained ruleset, written folder by folder and loaded section by section: under `lbl ch n` the loader
holds `colOf` of that Counter.  That this is the entry of `viewCols` under that name is `viewCols_eq` / `find_viewCols`
(`TrainedSections`). -/
namespace Pcfg.Trainer
open Pcfg.Detect Pcfg.LoadMulti Pcfg.RuleDir

section
variable (parseP : CPs → Option Rat) (showP : Rat → CPs) (hround : ∀ p, parseP (showP p) = some p) (hshow : ∀ p, CleanProb (showP p))

def fileText (t : MWTable) : CPs := writeFile ((listOf t).map fun it => (it.1, showP it.2))

/-- one section of a trained ruleset: folder written by `save_indexed_counters` over any previous content, read with the loader -/
def trainedSect (ch : Char) (d : LenCtr) (old : List (String × CPs)) : Sect (List (LGroup Rat)) where
  ch := ch
  d := d
  read := fun fn => (lookup (saveIndexed (fun n : Nat => toString n) ".txt" old (d.map fun e => (e.1, fileText showP e.2))) fn).bind
    (loadFromFile parseP (fun a b => a == b) (-1))
  val := fun e => loadFromFile parseP (fun a b => a == b) (-1) (fileText showP e.2)

include hround hshow in
theorem listOf_loads (neg1 : Rat) (t : MWTable) (hclean : ∀ it ∈ t, CleanValue it.1) (hsent : ∀ it ∈ listOf t, it.2 ≠ neg1) :
    ∃ gs, loadFromFile parseP (fun a b => a == b) neg1 (writeFile ((listOf t).map fun it => (it.1, showP it.2))) = some gs ∧
      gs.map (fun g => (g.values, g.prob)) = colOf t :=
  loader_returns_runs parseP showP neg1 hround (listOf t)
    (fun it hit => let ⟨_, hk⟩ := listOf_keys t it hit; hclean _ hk) hshow hsent

include hround hshow in
/-- with the source's start value −1: written probabilities are not negative -/
theorem fileText_loads (t : MWTable) (hclean : ∀ it ∈ t, CleanValue it.1) :
    ∃ gs, loadFromFile parseP (fun a b => a == b) (-1) (fileText showP t) = some gs ∧
      gs.map (fun g => (g.values, g.prob)) = colOf t :=
  listOf_loads parseP showP hround hshow (-1) t hclean fun it hit h =>
    absurd (h ▸ listOf_nonneg t it hit) (by decide)

include hround hshow in
theorem trainedSect_good (ch : Char) (d : LenCtr) (old : List (String × CPs)) (hnd : (d.map (·.1)).Nodup)
    (hclean : ∀ e ∈ d, ∀ it ∈ e.2, CleanValue it.1) : (trainedSect parseP showP ch d old).Good :=
  savedSect_good ch d hnd (fileText showP) (loadFromFile parseP (fun a b => a == b) (-1)) (fun e he => by
    obtain ⟨gs, hgs, _⟩ := fileText_loads parseP showP hround hshow e.2 (hclean e he)
    rw [hgs]; rfl) old

include hround hshow in
/-- **the terminal columns the guesser ends up with** (the link to `viewCols`: `find_viewCols`): any terminal sections (`secs`, pairwise
different letters) — one folder each, any previous content, file names `<n>.txt`, listed in the config, read back in source
order into one grammar — load, and the variable of every (section, length) holds the maximal runs of equal probability of that Counter's list (`colOf`) -/
theorem trained_terminals_load (secs : List (Char × LenCtr × List (String × CPs)))
    (hdist : (secs.map (·.1)).Nodup) (hnd : ∀ s ∈ secs, (s.2.1.map (·.1)).Nodup)
    (hclean : ∀ s ∈ secs, ∀ e ∈ s.2.1, ∀ it ∈ e.2, CleanValue it.1) :
    ∃ g', loadAll (secs.map fun s => trainedSect parseP showP s.1 s.2.1 s.2.2) [] = some g' ∧
      ∀ s ∈ secs, ∀ e ∈ s.2.1, ∃ gs, lookup g' (lbl s.1 e.1) = some gs ∧ gs.map (fun g => (g.values, g.prob)) = colOf e.2 := by
  obtain ⟨g', hload, hvals, _⟩ := loadAll_spec (secs.map fun s => trainedSect parseP showP s.1 s.2.1 s.2.2)
    (by rw [List.map_map]; exact hdist)
    (List.forall_mem_map.mpr fun s hs =>
      trainedSect_good parseP showP hround hshow s.1 s.2.1 s.2.2 (hnd s hs) (hclean s hs)) []
  refine ⟨g', hload, fun s hs e he => ?_⟩
  obtain ⟨gs, hgs, hruns⟩ := fileText_loads parseP showP hround hshow e.2 (hclean s hs e he)
  exact ⟨gs, (hvals _ (List.mem_map_of_mem hs) e he).trans hgs, hruns⟩

end
end Pcfg.Trainer
