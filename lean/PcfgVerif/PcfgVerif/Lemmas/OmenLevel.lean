import PcfgVerif.Lemmas.OmenEmit
import PcfgVerif.Lemmas.OmenTables
import PcfgVerif.Lemmas.OmenStrings
/-!
# OMEN: a level emits its specification list, which holds exactly the strings of that level, each once

`enumFrom` runs through `levelStrs`, the blocks of the cursors of `Tables.cursors` in order (`enumFrom_eq_levelStrs`).
Cut at `ipLen`, as `levelOf` cuts it, a string of a block shows the initial n-gram and the body length its cursor
points at (`mem_strBlock`): so the block determines the cursor, and a string has level `target` exactly when the
block of some valid cursor holds it (`levelStrs_exact`).
-/
namespace Omen

/-- the strings emitted while the cursor is `c` -/
def Tables.strBlock (t : Tables) (target : Nat) (c : Cursor) : List Str :=
  match t.gsTarget target c with
  | none => []
  | some tg => t.m.block (t.curIp c) (t.curLen c) tg

theorem blocks_render (t : Tables) (target : Nat) (cs : List Cursor) :
    (t.blocks target cs).map t.render = cs.flatMap (t.strBlock target) := by
  rw [Tables.blocks, List.map_flatMap]
  refine List.flatMap_congr' fun c _ => ?_
  unfold Tables.strBlock Tables.outTrees
  cases t.gsTarget target c with
  | none => rfl
  | some tg => simp [Model.block, Model.strs, Tables.render, List.map_map, Function.comp_def]

/-- what a level emits, as a list: the strings of every cursor of `cursors`, in order -/
def Tables.levelStrs (t : Tables) (target sl : Nat) : List Str :=
  (t.cursors target sl).flatMap (t.strBlock target)

theorem gsTarget_eq_some_iff (t : Tables) (target : Nat) (c : Cursor) (tg : Nat) :
    t.gsTarget target c = some tg ↔ c.lenLvl + c.ipLvl + tg = target := by
  unfold Tables.gsTarget
  split
  next h => rw [Option.some.injEq, Nat.sub_sub, Nat.sub_eq_iff_eq_add' h, eq_comm]
  next h => exact ⟨nofun, fun e => absurd (Nat.le.intro e) h⟩

section
variable {t : Tables} {ipLen : Nat} (hwf : t.WF ipLen) {target : Nat}
include hwf

theorem nodup_strBlock (c : Cursor) : (t.strBlock target c).Nodup := by
  unfold Tables.strBlock
  cases t.gsTarget target c with
  | none => exact List.nodup_nil
  | some tg => exact nodup_block hwf.entriesWF _ _ tg

theorem mem_strBlock {c : Cursor} (hv : c.Valid t) {y : Str} :
    y ∈ t.strBlock target c ↔ ∃ tg, t.gsTarget target c = some tg ∧ ipLen < y.length ∧
      y.take ipLen = t.curIp c ∧ (y.drop ipLen).length = t.curLen c ∧
      t.m.transCost (t.curIp c) (y.drop ipLen) = some tg := by
  have hip : (t.curIp c).length = ipLen :=
    hwf.ip_len _ (getD_mem_tbl t.ipTbl c.ipLvl (Nat.zero_lt_of_lt hv.ipIdx)) _ (getD_mem [] hv.ipIdx)
  unfold Tables.strBlock
  cases t.gsTarget target c with
  | none => exact ⟨nofun, nofun⟩
  | some tg =>
    show y ∈ t.m.block _ _ _ ↔ _
    rw [mem_block hwf.entriesWF, hip]
    exact ⟨fun h => ⟨tg, rfl, h⟩, fun ⟨_, e, h⟩ => Option.some.inj e ▸ h⟩

theorem strBlock_unique {a b : Cursor} (ha : a.Valid t) (hb : b.Valid t) {y : Str}
    (hya : y ∈ t.strBlock target a) (hyb : y ∈ t.strBlock target b) : a = b := by
  obtain ⟨_, _, _, ia, la, _⟩ := (mem_strBlock hwf ha).1 hya
  obtain ⟨_, _, _, ib, lb, _⟩ := (mem_strBlock hwf hb).1 hyb
  obtain ⟨e1, e2⟩ := pos_unique t.ipTbl hwf.ip_nodup [] _ _ _ _ ha.ipIdx hb.ipIdx (ia.symm.trans ib)
  obtain ⟨e3, e4⟩ := pos_unique t.lnTbl hwf.ln_nodup 0 _ _ _ _ ha.lenIdx hb.lenIdx (la.symm.trans lb)
  cases a; cases b
  exact (Cursor.mk.injEq ..).mpr ⟨e3, e4, e1, e2⟩

theorem levelOf_eq_some_iff_strBlock (s : Str) :
    t.levelOf ipLen s = some target ↔ ∃ c : Cursor, c.Valid t ∧ s ∈ t.strBlock target c := by
  rw [levelOf_eq_some_iff]
  constructor
  · rintro ⟨hl, a, b, cst, h1, h2, h3, hsum⟩
    obtain ⟨ha, hipm⟩ := (tblLevel_iff t.ipTbl hwf.ip_nodup _ _).1 h1
    obtain ⟨hb, hlnm⟩ := (tblLevel_iff t.lnTbl hwf.ln_nodup _ _).1 h2
    obtain ⟨i, hi, ei⟩ := exists_getD_of_mem 0 hlnm
    obtain ⟨j, hj, ej⟩ := exists_getD_of_mem [] hipm
    have hv : Cursor.Valid t ⟨b, i, a, j⟩ :=
      ⟨Nat.le_of_lt_succ (hwf.ln_levels ▸ hb :), hi, Nat.le_of_lt_succ (hwf.ip_levels ▸ ha :), hj⟩
    exact ⟨_, hv, (mem_strBlock hwf hv).2
      ⟨cst, (gsTarget_eq_some_iff t _ _ cst).2 (Nat.add_comm a b ▸ hsum), hl, ej.symm, ei.symm,
        (congrArg (t.m.transCost · _) ej).trans h3⟩⟩
  · rintro ⟨c, hv, hs⟩
    obtain ⟨cst, hg, hl, e1, e2, hcost⟩ := (mem_strBlock hwf hv).1 hs
    exact ⟨hl, c.ipLvl, c.lenLvl, cst,
      (tblLevel_iff t.ipTbl hwf.ip_nodup _ _).2
        ⟨hwf.ip_levels ▸ Nat.lt_succ_of_le hv.ipLvl, e1 ▸ getD_mem [] hv.ipIdx⟩,
      (tblLevel_iff t.lnTbl hwf.ln_nodup _ _).2
        ⟨hwf.ln_levels ▸ Nat.lt_succ_of_le hv.lenLvl, e2 ▸ getD_mem 0 hv.lenIdx⟩,
      e1 ▸ hcost, Nat.add_comm c.lenLvl c.ipLvl ▸ (gsTarget_eq_some_iff t target c cst).1 hg⟩

variable {sl : Nat} (hsl : findFirst t.m.maxLevel t.lnTbl = some sl) (hst : t.StartOK)
include hsl hst

theorem enumFrom_eq_levelStrs (fuel : Nat) :
    t.enumFrom target fuel ⟨⟨sl, 0, t.startIp, 0⟩, []⟩ = (t.levelStrs target sl).take fuel := by
  obtain ⟨l1, l2, _⟩ := findFirst_some _ _ _ hsl
  obtain ⟨rest, hL⟩ := cursors_eq_cons t hst target sl l2
  rw [enumFrom_fresh t (fun e he p hp => ((hwf.cp_levels e he).2 p hp).2) target
      (step_walks t hst target sl (Nat.le_of_lt l1))
      (Nat.le_of_lt (length_cursors_le t hst target sl (Nat.le_of_lt l1) hwf.ip_levels hwf.ln_levels)) fuel hL,
    List.map_take, blocks_render]
  rfl

theorem levelStrs_exact :
    (t.levelStrs target sl).Nodup ∧
      ∀ s : Str, s ∈ t.levelStrs target sl ↔ t.levelOf ipLen s = some target := by
  obtain ⟨l1, _, l3⟩ := findFirst_some _ _ _ hsl
  have hvalid := cursors_valid t hst target sl (Nat.le_of_lt l1)
  refine ⟨List.nodup_flatMap (cursors_nodup t target sl) (fun c _ => nodup_strBlock hwf c)
    fun a ha b hb hab y hya hyb =>
      hab (strBlock_unique hwf (hvalid a ha) (hvalid b hb) hya hyb), fun s => ?_⟩
  rw [levelOf_eq_some_iff_strBlock hwf, Tables.levelStrs, List.mem_flatMap]
  refine exists_congr fun c => and_congr_left fun hs => ⟨hvalid c, fun hv => ?_⟩
  -- a cursor whose block is not empty is within the target, hence on the walk
  obtain ⟨cst, hg, _⟩ := (mem_strBlock hwf hv).1 hs
  exact cursors_cover t hst target sl l3 c hv (Nat.le.intro ((gsTarget_eq_some_iff t target c cst).1 hg))

end

theorem start_eq_some {t : Tables} {s0 : CState} (hs : t.start = some s0) :
    ∃ sl, findFirst t.m.maxLevel t.lnTbl = some sl ∧ t.StartOK ∧ s0 = ⟨⟨sl, 0, t.startIp, 0⟩, []⟩ := by
  unfold Tables.start at hs
  split at hs
  next si sl hsi hsl =>
    obtain ⟨h1, h2, h3⟩ := findFirst_some _ _ _ hsi
    have e : t.startIp = si := congrArg (·.getD 0) hsi
    exact ⟨sl, hsl, ⟨e ▸ Nat.le_of_lt h1, e ▸ h2, e ▸ h3⟩, e ▸ (Option.some.inj hs).symm⟩
  next => cases hs

theorem level_settles (t : Tables) (ipLen : Nat) (hwf : t.WF ipLen) (target : Nat)
    (s0 : CState) (hs : t.start = some s0) :
    ∃ E N, (∀ fuel, N ≤ fuel → t.enumFrom target fuel s0 = E) ∧ E.Nodup ∧
      ∀ s : Str, s ∈ E ↔ t.levelOf ipLen s = some target := by
  obtain ⟨sl, hsl, hst, rfl⟩ := start_eq_some hs
  exact ⟨_, _, fun fuel hf => (enumFrom_eq_levelStrs hwf hsl hst fuel).trans (List.take_of_length_le hf),
    levelStrs_exact hwf hsl hst⟩

/-- from "the enumeration settles on `E`" to the form of the C10 / C11 / C18 statements: `∃ N`, constant from `N` on,
facts about the value at `N` -/
theorem settles {E : List Str} {N : Nat} {f : Nat → List Str} (h : ∀ fuel, N ≤ fuel → f fuel = E) :
    (∀ fuel, N ≤ fuel → f fuel = f N) ∧ f N = E :=
  ⟨fun fuel hf => (h fuel hf).trans (h N (Nat.le_refl _)).symm, h N (Nat.le_refl _)⟩

end Omen
