import PcfgVerif.Lemmas.LoaderLemmas
import PcfgVerif.Lemmas.ProbsLemmas
import PcfgVerif.Model.GridSpec
/-! The list `calculate_probabilities` writes for a counter (binary64: non-increasing, `mostCommon_ratio_sorted`) is loaded by
`_load_from_file` into non-empty groups whose probabilities are lines' probabilities in file order, hence non-increasing: the two
facts `WFStruct` (C01/C02/C08) asks of every column; so a grid of such columns is well-formed. -/
namespace Pcfg

/-- trainer → file → guesser over binary64: the list `calculate_probabilities` writes for a counter loads into a well-formed column
(`C07_trained_column_wf`) -/
theorem trained_column_wf (parseP : CPs → Option Nat) (showP : Nat → CPs) (neg1 : Nat)
    (hround : ∀ p, parseP (showP p) = some p)
    (counter : List (CPs × Nat)) (hne : counter ≠ [])
    (hclean : ∀ it ∈ counter, CleanValue it.1) (hshow : ∀ p, CleanProb (showP p))
    (hsent : ∀ it ∈ calcProbs C07.sfQ counter, it.2 ≠ neg1) :
    ∃ gs, loadFromFile parseP (fun a b => a == b) neg1
        (writeFile ((calcProbs C07.sfQ counter).map fun it => (it.1, showP it.2))) = some gs ∧
      gs ≠ [] ∧ (∀ g ∈ gs, g.values ≠ []) ∧
      (gs.map (·.prob)).Pairwise (fun a b => sfAlg.le b a = true) := by
  refine ⟨_, loadFromFile_shown parseP showP neg1 hround _ ?_ hshow hsent, groups_ne_nil _ _ ?_, groups_ne _ _,
    List.Pairwise.sublist (groups_probs _ _) ?_⟩
  · intro it hit
    obtain ⟨c, hc, _⟩ := (calcProbs_mem C07.sfQ counter it.1 it.2).mp hit
    exact hclean (it.1, c) hc
  · intro h
    have := congrArg List.length h
    simp [calcProbs, mostCommon] at this
    exact hne this
  · rw [List.pairwise_map]
    exact (mostCommon_ratio_sorted (totalCount C07.sfQ counter) counter).imp fun {a b} h => by simpa [sfAlg] using h

/-- every column of the grid is the list of group probabilities the loader model returns on a list file written for a counter -/
def TrainedCols (parseP : CPs → Option Nat) (showP : Nat → CPs) (neg1 : Nat) (g : Grid Nat) : Prop :=
  ∀ st ∈ g, ∀ c ∈ st.cols, ∃ (counter : List (CPs × Nat)) (gs : List (LGroup Nat)), counter ≠ [] ∧
    (∀ it ∈ counter, CleanValue it.1) ∧ (∀ it ∈ calcProbs C07.sfQ counter, it.2 ≠ neg1) ∧
    loadFromFile parseP (fun a b => a == b) neg1
      (writeFile ((calcProbs C07.sfQ counter).map fun it => (it.1, showP it.2))) = some gs ∧ c = gs.map (·.prob)

theorem trained_grid_wf (parseP : CPs → Option Nat) (showP : Nat → CPs) (neg1 : Nat)
    (hround : ∀ p, parseP (showP p) = some p) (hshow : ∀ p, CleanProb (showP p)) (g : Grid Nat)
    (hcols : TrainedCols parseP showP neg1 g) : WF sfAlg.toPOps g := by
  intro st hst c hc
  obtain ⟨counter, gs, hne, hclean, hsent, hload, rfl⟩ := hcols st hst c hc
  obtain ⟨gs', hload', hne', _, hsorted⟩ := trained_column_wf parseP showP neg1 hround counter hne hclean hshow hsent
  rw [hload] at hload'
  cases hload'
  exact ⟨by simpa using hne', hsorted⟩

end Pcfg
