import PcfgVerif.Model.OmenScorerFiles
import PcfgVerif.Lemmas.ListFacts
/-!
# Python dicts as association lists

`assocUpd` (`if k not in d: d[k] = new; d[k] = f(d[k])`) seen through `assocGet` (`d.get(k)`), what it does to the keys, and the
invariants it keeps; plain assignment (`assocSet`) is the case of a constant `f`, and a dict filled by assignments answers with
the last one.  The dicts and `Counter`s of the models are instances, except the third pass's level tally
(`Omen.bump`, a recursion of its own: Lemmas/OmenProb).
-/
namespace Omen
variable {κ β : Type} [BEq κ]

theorem assocUpd_keys (al : List (κ × β)) (k : κ) (f : Option β → β) :
    (assocUpd al k f).map (·.1) = if al.any (·.1 == k) then al.map (·.1) else al.map (·.1) ++ [k] := by
  unfold assocUpd
  rw [apply_ite (List.map _), List.map_append, List.map_map]
  -- a rewritten entry keeps its key
  simp only [Function.comp_def, apply_ite Prod.fst, ite_self]
  rfl

theorem assocUpd_inv (I : κ → β → Prop) (al : List (κ × β)) (k : κ) (f : Option β → β) (h : ∀ p ∈ al, I p.1 p.2)
    (hupd : ∀ p ∈ al, (p.1 == k) = true → I p.1 (f (some p.2))) (hnew : I k (f none)) : ∀ p ∈ assocUpd al k f, I p.1 p.2 := by
  unfold assocUpd
  by_cases hany : al.any (·.1 == k) = true
  · rw [if_pos hany]
    refine List.forall_mem_map.mpr fun q hq => ?_
    split
    · rename_i hk; exact hupd q hq hk
    · exact h q hq
  · rw [if_neg hany]
    exact List.forall_mem_append.mpr ⟨h, List.forall_mem_singleton.mpr hnew⟩

theorem assocGet_isSome (al : List (κ × β)) (k : κ) : (assocGet al k).isSome = al.any (·.1 == k) := by
  unfold assocGet
  rw [Option.isSome_map, List.isSome_find?]

variable [LawfulBEq κ]

theorem assocGet_mem {al : List (κ × β)} {k : κ} {v : β} (h : assocGet al k = some v) : (k, v) ∈ al := by
  obtain ⟨p, hp, rfl⟩ := Option.map_eq_some_iff.1 h
  have hk := List.find?_some hp
  exact beq_iff_eq.mp hk ▸ List.mem_of_find?_eq_some hp

theorem assocGet_eq_some_iff {al : List (κ × β)} (hk : (al.map (·.1)).Nodup) {k : κ} {v : β} :
    assocGet al k = some v ↔ (k, v) ∈ al := by
  refine ⟨assocGet_mem, fun h => ?_⟩
  unfold assocGet
  rw [List.find?_unique h (beq_self_eq_true k) fun y hy hyk => List.eq_of_nodup_map hk hy h (beq_iff_eq.mp hyk)]
  rfl

theorem assocGet_map_upd (al : List (κ × β)) (k k' : κ) (g : β → β) :
    assocGet (al.map fun p => if p.1 == k then (p.1, g p.2) else p) k' =
      (assocGet al k').map fun v => if k' == k then g v else v := by
  unfold assocGet
  -- a rewritten entry keeps its key, so the same entry is found
  simp only [List.find?_map, Function.comp_def, apply_ite Prod.fst, ite_self]
  cases hf : al.find? (·.1 == k') with
  | none => rfl
  | some p =>
    have hk := List.find?_some hf
    rw [← beq_iff_eq.mp hk]
    exact congrArg some (apply_ite Prod.snd ..)

theorem assocGet_concat (al : List (κ × β)) (k k' : κ) (v : β) :
    assocGet (al ++ [(k, v)]) k' = (assocGet al k').or (if k' == k then some v else none) := by
  unfold assocGet
  rw [List.find?_append, Option.map_or, List.find?_singleton, BEq.comm, apply_ite (Option.map _)]
  rfl

theorem assocGet_assocUpd (al : List (κ × β)) (k k' : κ) (f : Option β → β) :
    assocGet (assocUpd al k f) k' = if k' == k then some (f (assocGet al k)) else assocGet al k' := by
  unfold assocUpd
  rw [← assocGet_isSome, apply_ite (assocGet · k'), assocGet_concat, assocGet_map_upd al k k' fun v => f (some v)]
  by_cases hk : k' == k
  · -- the key itself: its entry is rewritten if it is there, and else goes to the end
    simp only [if_pos hk]
    rw [beq_iff_eq.mp hk]
    cases assocGet al k <;> rfl
  · -- another key sees neither
    simp only [if_neg hk]
    rw [Option.or_none, Option.map_id', ite_self]

theorem assocUpd_keys_nodup (al : List (κ × β)) (k : κ) (f : Option β → β) (h : (al.map (·.1)).Nodup) :
    ((assocUpd al k f).map (·.1)).Nodup := by
  by_cases hany : al.any (·.1 == k) = true
  · rwa [assocUpd_keys, if_pos hany]
  · rw [assocUpd, if_neg hany]
    exact List.nodup_map_concat _ _ h hany

theorem assocGet_assocSet (al : List (κ × β)) (k k' : κ) (v : β) :
    assocGet (assocSet al k v) k' = if k' == k then some v else assocGet al k' :=
  assocGet_assocUpd al k k' _

/-- a dict filled by assignments answers with the value of the last assignment to the key, whatever the representation of the
dict: all that is used of `set` is what a look-up sees after it -/
theorem get_foldl_set {D γ : Type} (get : D → κ → Option β) (set : D → κ → β → D)
    (hset : ∀ d k k' v, get (set d k v) k' = if k' == k then some v else get d k')
    (f : γ → κ) (g : γ → β) (lines : List γ) (d0 : D) (k : κ) :
    get (lines.foldl (fun d ln => set d (f ln) (g ln)) d0) k =
      match lines.reverse.find? (fun ln => f ln == k) with
      | some ln => some (g ln)
      | none => get d0 k := by
  induction lines generalizing d0 with
  | nil => rfl
  | cons x r ih =>
    rw [List.foldl_cons, ih, List.reverse_cons, List.find?_append, List.find?_singleton, hset, BEq.comm]
    cases r.reverse.find? (fun ln => f ln == k) with
    | some ln => rfl
    | none => cases f x == k <;> rfl

/-- a dict filled by `d[key] = value` per line `(value, key)` answers like `φ`, if the lines are the graph of `φ` -/
theorem assocGet_foldl_set {lines : List (β × κ)} {φ : κ → Option β} (h : ∀ v k, (v, k) ∈ lines ↔ φ k = some v) (k : κ) :
    assocGet (lines.foldl (fun d ln => assocSet d ln.2 ln.1) []) k = φ k := by
  refine (get_foldl_set assocGet assocSet assocGet_assocSet (fun ln : β × κ => ln.2) (·.1) lines [] k).trans ?_
  cases hf : lines.reverse.find? (fun ln => ln.2 == k) with
  | some ln =>
    have hk := List.find?_some hf
    exact ((h ln.1 k).1 (beq_iff_eq.mp hk ▸ List.mem_reverse.1 (List.mem_of_find?_eq_some hf))).symm
  | none =>
    cases hφ : φ k with
    | none => rfl
    | some v =>
      exact absurd (beq_self_eq_true k) (List.find?_eq_none.1 hf (v, k) (List.mem_reverse.2 ((h v k).2 hφ)))

end Omen
