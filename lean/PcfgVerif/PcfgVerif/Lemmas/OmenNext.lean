import PcfgVerif.Lemmas.OmenFill
/-!
# OMEN: `nextTree` read from the head of the tree

`GuessStructure.next_guess` pops items off the end of the parse tree until one of them can be
re-chosen (`outer`).  `specNext` says the same by recursion from the head, the direction in which
`allTrees` is built: the successor of the tail if it has one, else the head re-chosen (`rechoose`).
-/
namespace Omen

def lsum (t : List Item) : Nat := (t.map (·.lvl)).sum

@[simp] theorem lsum_nil : lsum [] = 0 := rfl
@[simp] theorem lsum_cons (a : Item) (t : List Item) : lsum (a :: t) = a.lvl + lsum t := rfl

/-- `it :: t` with the head re-chosen and the tail filled out anew: the last item only moves on within its level, an
earlier one through the rest of its level and then the levels below (`descend`) -/
def Model.rechoose (m : Model) (it : Item) : List Item → Option (List Item)
  | [] => if it.idx + 1 < (m.chars it.ip it.lvl).length then some [{ it with idx := it.idx + 1 }] else none
  | e :: t' =>
    (m.descend it.ip e.ip (t'.length + 1) (lsum (e :: t') + it.lvl) (it.lvl + 1) it.lvl (it.idx + 1)).map
      fun r => ⟨it.ip, r.1, r.2.1⟩ :: r.2.2

def Model.specNext (m : Model) : List Item → Option (List Item)
  | [] => none
  | it :: t => ((m.specNext t).map (it :: ·)).or (m.rechoose it t)

theorem specNext_append_some (m : Model) {U u' : List Item} (h : m.specNext U = some u') :
    ∀ X : List Item, m.specNext (X ++ U) = some (X ++ u')
  | [] => h
  | x :: X => by rw [List.cons_append, Model.specNext, specNext_append_some m h X]; rfl

/-- `outer` with `last` on top of the stack, the popped part `e :: B` having no successor of its own -/
theorem outer_eq_specNext (m : Model) :
    ∀ (below : List Item) (last e : Item) (B : List Item) (lv : Nat), lv = lsum (e :: B) + last.lvl →
      m.specNext (e :: B) = none →
      m.outer (last :: below) e (B.length + 1) lv = m.specNext (below.reverse ++ last :: e :: B)
  | below, last, e, B, _, rfl, hB => by
    unfold Model.outer
    split
    next l i t hd =>
      have hs : m.specNext (last :: e :: B) = some (⟨last.ip, l, i⟩ :: t) := by
        rw [Model.specNext, hB, Model.rechoose, hd]; rfl
      rw [specNext_append_some m hs, List.append_assoc]; rfl
    next hd =>
      have hs : m.specNext (last :: e :: B) = none := by rw [Model.specNext, hB, Model.rechoose, hd]; rfl
      cases below with
      | nil => exact hs.symm
      | cons b below =>
        rw [List.reverse_cons, List.append_assoc]
        exact outer_eq_specNext m below b last (e :: B) _ (by rw [lsum_cons (a := last), Nat.add_comm last.lvl]) hs

theorem nextTree_eq_specNext (m : Model) (t : List Item) : m.nextTree t = m.specNext t := by
  obtain ⟨r, rfl⟩ : ∃ r, t = r.reverse := ⟨t.reverse, (List.reverse_reverse t).symm⟩
  rw [Model.nextTree, List.reverse_reverse]
  cases r with
  | nil => rfl
  | cons last restRev =>
    simp only [List.reverse_cons]
    by_cases hc : last.idx + 1 < (m.chars last.ip last.lvl).length
    · have h1 : m.specNext [last] = some [{ last with idx := last.idx + 1 }] := by
        rw [Model.specNext, Model.rechoose, if_pos hc]; rfl
      rw [if_pos hc, specNext_append_some m h1]
    · have h1 : m.specNext [last] = none := by rw [Model.specNext, Model.rechoose, if_neg hc]; rfl
      rw [if_neg hc]
      cases restRev with
      | nil => exact h1.symm
      | cons l2 below =>
        rw [List.reverse_cons, List.append_assoc]
        exact outer_eq_specNext m below l2 last [] _ rfl h1

end Omen
