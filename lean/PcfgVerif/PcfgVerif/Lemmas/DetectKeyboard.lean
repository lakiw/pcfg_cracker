import PcfgVerif.Lemmas.DetectTiling
/-!
The keyboard-walk detector. One induction over the scan (`kwScan_out`) gives all that is claimed of its answer (`KWOut`): the
sections tile the password, the walks reported are the `K` sections, and each is long enough, interesting and a walk on one
layout; for the last it carries what the scan's state knows of the run it is extending (`KWInv`).
-/
namespace Pcfg.Detect

theorem minKeyboardRun_eq : Generated.Tables.minKeyboardRun = 4 := rfl

/-- two consecutive keys of a walk are neighbours on a common layout -/
def adjacentOn (b : Nat) (c d : Nat) : Prop :=
  ∃ p q, p ∈ findKey c ∧ q ∈ findKey d ∧ p.board = b ∧ q.board = b ∧ b ∈ nextOn [p] [q]

theorem of_ite_eq_some {α : Type} {c : Prop} [Decidable c] {x y : Option α} {b : α} {P : Prop}
    (hx : x = some b → P) (hy : y = some b → P) (h : (if c then x else y) = some b) : P := by
  split at h
  · exact hx h
  · exact hy h

theorem nextOn_mem {past cur : List KPos} {b : Nat} (h : b ∈ nextOn past cur) :
    ∃ p q, p ∈ past ∧ q ∈ cur ∧ p.board = b ∧ q.board = b ∧ b ∈ nextOn [p] [q] := by
  obtain ⟨p, hp, hf⟩ := List.mem_filterMap.mp h
  split at hf
  · cases hf
  · next q hq =>
    have hqb := List.find?_some hq
    -- whichever test answers, the answer is `some p.board` or `none`
    have hnone : (none : Option Nat) = some b → p.board = b := nofun
    have leaf : ∀ (c : Prop) [Decidable c], (if c then some p.board else none) = some b → p.board = b :=
      fun c _ => of_ite_eq_some Option.some.inj hnone
    have hb : p.board = b :=
      of_ite_eq_some hnone (of_ite_eq_some (leaf _) (of_ite_eq_some (leaf _) (of_ite_eq_some (leaf _) hnone))) hf
    refine ⟨p, q, hp, List.mem_of_find?_eq_some hq, hb, (eq_of_beq hqb).trans hb,
      List.mem_filterMap.mpr ⟨p, .head _, ?_⟩⟩
    rw [List.find?_cons_of_pos (a := q) hqb]
    exact hf

theorem nextOn_nil (cur : List KPos) : nextOn [] cur = [] := rfl

def Walk (b : Nat) (w : CPs) : Prop :=
  ∀ i, i + 1 < w.length → adjacentOn b (w.getD i 0) (w.getD (i + 1) 0)

theorem walk_short (b : Nat) (w : CPs) (h : w.length ≤ 1) : Walk b w := by
  intro i hi; omega

theorem walk_snoc {b : Nat} {w : CPs} {v : Nat} (hw : Walk b w)
    (hl : ∀ c, w.getLast? = some c → adjacentOn b c v) : Walk b (w ++ [v]) := by
  intro i hi
  rw [List.length_append, List.length_singleton] at hi
  rw [List.getD_eq_getElem?_getD, List.getD_eq_getElem?_getD, List.getElem?_append_left (by omega)]
  by_cases h : i + 1 < w.length
  · rw [List.getElem?_append_left h, ← List.getD_eq_getElem?_getD, ← List.getD_eq_getElem?_getD]
    exact hw i h
  · have hi' : i + 1 = w.length := by omega
    rw [hi', List.getElem?_concat_length]
    refine hl _ ?_
    rw [List.getLast?_eq_getElem?, ← hi', Nat.add_sub_cancel, List.getElem?_eq_getElem (by omega)]
    rfl

/-- the state of the scan (`past_pos_list`, `cur_combo`, `keyboard_run_list`): the positions of the last key read, and a run
that is a walk on every layout still listed; none is listed only while the run has at most one key -/
structure KWInv (st : KWState) : Prop where
  past_last : ∀ c, st.combo.getLast? = some c → st.past = findKey c
  runs_nil : st.runs = [] → st.combo.length ≤ 1
  walk : ∀ b ∈ st.runs, Walk b st.combo

theorem KWInv.init : KWInv {} := ⟨by simp, by simp, by simp⟩

theorem KWInv.exists_walk {st : KWState} (h : KWInv st) : ∃ b, Walk b st.combo := by
  cases hr : st.runs with
  | nil => exact ⟨0, walk_short _ _ (h.runs_nil hr)⟩
  | cons b _ => exact ⟨b, h.walk b (by simp [hr])⟩

theorem KWInv.reset (value : Nat) : KWInv ⟨findKey value, [value], []⟩ :=
  ⟨by simp, by simp, by simp⟩

theorem KWInv.extend {st : KWState} (h : KWInv st) (value : Nat) (runs : List Nat)
    (hruns : runs = if st.runs.isEmpty then nextOn st.past (findKey value)
      else st.runs.filter (nextOn st.past (findKey value)).contains)
    (hne : runs ≠ []) : KWInv ⟨findKey value, st.combo ++ [value], runs⟩ := by
  refine ⟨by simp, fun h' => absurd h' hne, fun b hb => ?_⟩
  subst hruns
  have hb' : b ∈ nextOn st.past (findKey value) ∧ Walk b st.combo := by
    split at hb
    · next he => exact ⟨hb, walk_short _ _ (h.runs_nil (by simpa using he))⟩
    · have := List.mem_filter.mp hb
      exact ⟨by simpa using this.2, h.walk b this.1⟩
  refine walk_snoc hb'.2 fun c hc => ?_
  rw [h.past_last c hc] at hb'
  exact nextOn_mem hb'.1

theorem tilesFrom_cons (U : UEnv) (s : Sec) (pw : CPs) (rs : List Sec) (hne : s.1 ≠ [])
    (hs : s.2 ≠ some "W") (h : TilesFrom U pw 0 rs) : TilesFrom U (s.1 ++ pw) 0 (s :: rs) := by
  refine ⟨⟨hne, by simp, fun _ => by simp [slice], fun h => absurd h hs⟩, ?_⟩
  simpa using tilesFrom_shift U (s.1 ++ pw) pw s.1.length [] (by simp) (by simp [slice]) (by simp [TilesFrom]) rs 0 h

/-- what holds of everything `kwScan` returns: the sections tile the text, the labelled ones are the walks reported,
in order, each labelled `K<length>`, and each of these is at least `m` keys long, interesting, and a walk on one layout -/
structure KWOut (U : UEnv) (m : Nat) (P : CPs) (r : List Sec × List CPs) : Prop where
  tiles : TilesFrom U P 0 r.1
  walks : labelled r.1 = r.2.map fun v => (lbl 'K' v.length, v)
  sound : ∀ w ∈ r.2, m ≤ w.length ∧ interesting U w = true ∧ ∃ b, Walk b w

section
variable {U : UEnv} {m : Nat} {P : CPs} {r : List Sec × List CPs}

theorem KWOut.found (h : KWOut U m P r) : r.2 = (r.1.filter (fun s => s.2.isSome)).map (·.1) := by
  rw [← labelled_texts, h.walks, List.map_map]
  exact (List.map_id' _).symm

theorem KWOut.nil : KWOut U m [] ([], []) := ⟨rfl, rfl, nofun⟩

theorem KWOut.single (hne : P ≠ []) : KWOut U m P ([(P, none)], []) :=
  ⟨tilesFrom_single U P hne, rfl, nofun⟩

theorem KWOut.cons_none (h : KWOut U m P r) {t : CPs} (ht : t ≠ []) : KWOut U m (t ++ P) ((t, none) :: r.1, r.2) :=
  ⟨tilesFrom_cons U (t, none) P r.1 ht nofun h.tiles, h.walks, h.sound⟩

theorem KWOut.cons_walk (h : KWOut U m P r) {t : CPs} (ht : t ≠ [])
    (hs : m ≤ t.length ∧ interesting U t = true ∧ ∃ b, Walk b t) :
    KWOut U m (t ++ P) ((t, some (lbl 'K' t.length)) :: r.1, t :: r.2) :=
  ⟨tilesFrom_cons U (t, _) P r.1 ht (fun e => lbl_ne_W _ _ (Option.some.inj e)) h.tiles, congrArg (_ :: ·) h.walks,
    List.forall_mem_cons.mpr ⟨hs, h.sound⟩⟩

/-- what the scan answers when it has a run `st.combo` behind unlabelled text `pre` (`index = pre.length + st.combo.length`
characters read) and `r` for the text `P` after them -/
theorem KWOut.emit (h : KWOut U m P r) (pre : CPs) {st : KWState} (hinv : KWInv st) (hm : 1 ≤ m)
    (hc : (decide (st.combo.length ≥ m) && interesting U st.combo) = true) :
    KWOut U m (pre ++ st.combo ++ P)
      ((if st.combo.length != pre.length + st.combo.length
          then [((pre ++ st.combo ++ P).take (pre.length + st.combo.length - st.combo.length), none)] else []) ++
        [(st.combo, some (lbl 'K' st.combo.length))] ++ r.1, st.combo :: r.2) := by
  simp only [Bool.and_eq_true, decide_eq_true_eq] at hc
  have hw := h.cons_walk (List.ne_nil_of_length_pos (Nat.lt_of_lt_of_le hm hc.1)) ⟨hc.1, hc.2, hinv.exists_walk⟩
  cases pre with
  | nil => simpa using hw
  | cons a pre => simpa using hw.cons_none (List.cons_ne_nil a pre)

end

/-- `P` is what was consumed without result (`pre`), the run that is being extended, and what is still to read -/
theorem kwScan_out (U : UEnv) (m : Nat) (hm : 1 ≤ m) (fuel : Nat) (P rest : CPs) (index : Nat) (st : KWState)
    (pre : CPs) (hP : P ≠ []) (hsplit : P = pre ++ st.combo ++ rest) (hidx : index = pre.length + st.combo.length)
    (hinv : KWInv st) : KWOut U m P (kwScan U m fuel P rest index st) := by
  -- the cases are the six branches of `kwScan`, in the order of its definition
  fun_induction kwScan U m fuel P rest index st generalizing pre with
  | case1 P => exact .single hP
  | case2 fuel P index st hc pre' =>
    subst hidx hsplit
    simpa [pre'] using KWOut.nil.emit pre hinv hm hc
  | case3 fuel P => exact .single hP
  | case4 fuel P index st value more posList current runs hr ih =>
    exact ih pre hP (by simp [hsplit]) (by simp [hidx]; omega) (hinv.extend value runs rfl (by simpa using hr))
  | case5 fuel P index st value more posList current runs hr hc pre' rs rf heq ih =>
    subst hidx hsplit
    have hdrop : (pre ++ st.combo ++ value :: more).drop (pre.length + st.combo.length) = value :: more := by simp
    have := ih [] (by simp) (by simp) (by simp) .init
    rw [heq, hdrop] at this
    exact this.emit pre hinv hm hc
  | case6 fuel P index st value more posList current runs hr hc ih =>
    have : runs = [] := by simpa using hr
    exact ih (pre ++ st.combo) hP (by simp [hsplit]) (by simp [hidx]) (this ▸ .reset value)

theorem detectKeyboardWalk_out (U : UEnv) (pw : CPs) (hne : pw ≠ []) :
    KWOut U Generated.Tables.minKeyboardRun pw (detectKeyboardWalk U pw) :=
  kwScan_out U _ (by decide) (2 * pw.length + 2) pw pw 0 {} [] hne (by simp) (by simp) .init

theorem of_ite_false {c : Prop} [Decidable c] {b : Bool} (h : (if c then false else b) = true) : ¬ c ∧ b = true := by
  simpa using h

/-- `interesting` implies at least two of the classes letter / digit / other occur -/
theorem interesting_classes (U : UEnv) (w : CPs) (h : interesting U w = true) :
    (if w.any U.isAlpha then 1 else 0) + (if w.any (fun c => !U.isAlpha c && U.isDigit c) then 1 else 0) +
      (if w.any (fun c => !U.isAlpha c && !U.isDigit c) then 1 else 0) ≥ 2 ∧
    ∀ fp ∈ Generated.Tables.falsePositiveWords, containsSub (U.lowerPy w) fp = false := by
  -- seven black-list tests, then the false-positive words, then the count of classes
  have h := (of_ite_false (of_ite_false (of_ite_false (of_ite_false (of_ite_false (of_ite_false
    (of_ite_false h).2).2).2).2).2).2).2
  obtain ⟨hfp, h⟩ := of_ite_false h
  refine ⟨by have := of_decide_eq_true h; omega, fun fp hfp' => ?_⟩
  rw [Bool.not_eq_true, List.any_eq_false] at hfp
  simpa using hfp fp hfp'

end Pcfg.Detect
