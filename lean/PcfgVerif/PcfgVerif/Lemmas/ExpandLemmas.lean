import PcfgVerif.Model.ExpandSpec
/-!
# Expansion writes `productSpec` and honours `--limit` (C04, C09, C16, C17)

The generated fragments; the arithmetic every limit loop shares (`HitZero.after`); what it means for a generator to write
a list under a limit (`Emits`); the values loop; `recGuesses` at a position as one values loop over `combine`; the
session loop over the popped pre-terminals.
-/
namespace Pcfg

namespace Frag
open Generated.Expand

theorem isMarkov_eq (c : Char) : isMarkov c = (c == 'M') := rfl
theorem isCase_eq (c : Char) : isCase c = (c == 'C') := rfl
theorem maskStart_eq : maskStart = 0 := rfl
theorem maskStep_eq : maskStep = 1 := rfl
theorem cIsLeaf_eq (n : Nat) : cIsLeaf n = (n == 1) := rfl
theorem pIsLeaf_eq (n : Nat) : pIsLeaf n = (n == 1) := rfl
theorem cLeafCount_eq : cLeafCount = 1 := rfl
theorem pLeafCount_eq : pLeafCount = 1 := rfl
theorem cLeafDec_eq : cLeafDec = 1 := rfl
theorem pLeafDec_eq : pLeafDec = 1 := rfl
theorem omenCount_eq : omenCount = 1 := rfl
theorem omenDec_eq : omenDec = 1 := rfl
theorem cLeafHit_eq (l : Int) : cLeafHit l = decide (l ≤ 0) := rfl
theorem cRecHit_eq (l : Int) : cRecHit l = decide (l ≤ 0) := rfl
theorem pLeafHit_eq (l : Int) : pLeafHit l = (l == 0) := rfl
theorem pRecHit_eq (l : Int) : pRecHit l = decide (l ≤ 0) := rfl
theorem omenHit_eq (l : Int) : omenHit l = decide (l ≤ 0) := rfl
theorem sessionHit_eq (l : Int) : sessionHit l = decide (l ≤ 0) := rfl
theorem princeGoOn_eq (num mx : Nat) : princeGoOn num mx = decide (num < mx) := rfl

end Frag

/-! All loops that honour `--limit` have one shape: write `a` lines of a budget `n ≥ 1` (never more than `n`),
subtract, test, go on with what is left.  `HitZero.after` is the whole arithmetic of it. -/

def HitZero (hit : Int → Bool) : Prop := ∀ l : Int, 0 ≤ l → (hit l = true ↔ l = 0)

theorem hitZero_le : HitZero (fun l => decide (l ≤ 0)) := by
  intro l hl; simp; omega
theorem hitZero_eq : HitZero (fun l => l == 0) := by
  intro l hl; simp

theorem limTruthy_none : limTruthy none = false := rfl
theorem limTruthy_pos (n : Nat) (hn : 1 ≤ n) : limTruthy (some (n : Int)) = true := by
  simp [limTruthy]; omega

theorem HitZero.after {hit : Int → Bool} (h : HitZero hit) (n a : Nat) :
    (n : Int) - ((min n a : Nat) : Int) = ((n - a : Nat) : Int) ∧ hit ((n - a : Nat) : Int) = decide (n ≤ a) := by
  refine ⟨by omega, ?_⟩
  rw [Bool.eq_iff_iff, h _ (Int.natCast_nonneg _), decide_eq_true_iff, Int.natCast_eq_zero, Nat.sub_eq_zero_iff_le]

/-- `gen` writes `L`: all of it without a limit, the first `n` lines under the limit `n ≥ 1`; the count returned is the
number of lines written and nothing raises -/
structure Emits (gen : Option Int → ERes) (L : List Str) : Prop where
  none : gen none = ⟨L, L.length, false⟩
  some : ∀ n : Nat, 1 ≤ n → gen (some (n : Int)) = ⟨L.take n, min n L.length, false⟩

theorem Emits.single (w : Str) : Emits (fun _ => ⟨[w], 1, false⟩) [w] :=
  ⟨rfl, fun n hn => by rw [List.take_of_length_le hn, List.length_singleton, Nat.min_eq_right hn]⟩

/-- if every iteration writes its list `spec v` (and charges the limit what it counts), the loop writes their
concatenation -/
theorem valuesLoop_emits {body : Str → Option Int → ERes × Int} {hit : Int → Bool} {spec : Str → List Str}
    (hhit : HitZero hit) {vals : List Str}
    (hbody : ∀ v ∈ vals, Emits (fun lim => (body v lim).1) (spec v))
    (hdec : ∀ v ∈ vals, ∀ lim, (body v lim).2 = ((body v lim).1.count : Int)) :
    Emits (valuesLoop body hit vals) (vals.flatMap spec) := by
  induction vals with
  | nil => exact ⟨rfl, fun n _ => by simp [valuesLoop]⟩
  | cons v vs ih =>
    have ih := ih (fun w hw => hbody w (List.mem_cons_of_mem _ hw)) (fun w hw => hdec w (List.mem_cons_of_mem _ hw))
    have hv := hbody v List.mem_cons_self
    have hd := hdec v List.mem_cons_self
    constructor
    · have h1 : (body v none).1 = _ := hv.none
      simp [valuesLoop, h1, limTruthy_none, ih.none]
    · intro n hn
      have h1 : (body v (some (n : Int))).1 = _ := hv.some n hn
      have ⟨e, ht⟩ := hhit.after n (spec v).length
      simp only [valuesLoop, hd, h1, limTruthy_pos n hn, Option.getD_some, e, ht, Bool.false_eq_true, if_false, if_true,
        decide_eq_true_eq, List.flatMap_cons, List.take_append, List.length_append]
      split
      · next hk =>  -- the budget ends inside `spec v`
        rw [Nat.sub_eq_zero_of_le hk, List.take_zero, List.append_nil, Nat.min_eq_left hk,
          Nat.min_eq_left (Nat.le_trans hk (Nat.le_add_right ..))]
      · next hk =>  -- all of `spec v`, and the rest of the loop under what is left
        have hk := Nat.lt_of_not_le hk
        rw [ih.some _ (Nat.sub_pos_of_lt hk), Nat.min_eq_right (Nat.le_of_lt hk), ← Nat.add_min_add_left,
          Nat.add_sub_of_le (Nat.le_of_lt hk)]

theorem omenLoop_eq_valuesLoop (gs : List Str) :
    omenLoop gs = valuesLoop (fun v _ => (⟨[v], Generated.Expand.omenCount, false⟩, Generated.Expand.omenDec))
      Generated.Expand.omenHit gs := by
  funext limit
  induction gs generalizing limit with
  | nil => rfl
  | cons a rest ih => simp only [omenLoop, ih]; rfl

theorem omenLoop_emits (gs : List Str) : Emits (omenLoop gs) gs := by
  rw [omenLoop_eq_valuesLoop]
  simpa using valuesLoop_emits (hit := Generated.Expand.omenHit) hitZero_le
    (body := fun v _ => (⟨[v], Generated.Expand.omenCount, false⟩, Generated.Expand.omenDec))
    (fun v (_ : v ∈ gs) => Emits.single v) (fun _ _ _ => rfl)

theorem EGrammar.values_some {g : EGrammar} {t : String} {i : Nat} {vals : List Str}
    (h : g.values t i = some vals) : ∃ gs, (t, gs) ∈ g ∧ gs[i]? = some vals := by
  obtain ⟨_, hg, hi⟩ := Option.bind_eq_some_iff.mp h
  obtain ⟨⟨n, gs⟩, hf, rfl⟩ := Option.map_eq_some_iff.mp hg
  obtain rfl : n = t := eq_of_beq (List.find?_some hf :)
  exact ⟨gs, List.mem_of_find?_eq_some hf, hi⟩

section
variable {upper : Char → List Char} {g : EGrammar} {cur : Str} {t : String} {i : Nat} {rest : PT}

theorem okSpec_cons (hok : okSpec upper g cur ((t, i) :: rest) = true) :
    ∃ cat first vs, t.toList.head? = some cat ∧ g.values t i = some (first :: vs) ∧
      Generated.Expand.isMarkov cat = false ∧
      ∀ v ∈ first :: vs, ∃ ng, combine upper cat first cur v = some ng ∧ okSpec upper g ng rest = true := by
  unfold okSpec at hok
  split at hok
  · next cat vals hcat hvals =>
    simp only [Bool.and_eq_true, Bool.not_eq_true', List.all_eq_true] at hok
    obtain ⟨⟨hM, hne⟩, hall⟩ := hok
    cases vals with
    | nil => simp at hne
    | cons first vs =>
      refine ⟨cat, first, vs, hcat, hvals, hM, fun v hv => ?_⟩
      have := hall v hv
      split at this
      · next ng hng => exact ⟨ng, hng, this⟩
      · simp at this
  · simp at hok

theorem productSpec_cons {cat : Char} {vals : List Str} (hcat : t.toList.head? = some cat)
    (hvals : g.values t i = some vals) :
    productSpec upper g cur ((t, i) :: rest) = vals.flatMap fun v =>
      match combine upper cat (vals.headD []) cur v with
      | some cur' => productSpec upper g cur' rest
      | none => [] := by
  rw [productSpec]; simp only [hcat, hvals]; rfl

theorem mem_productSpec_cons {cat : Char} {vals : List Str} {v cur' x : Str} (hcat : t.toList.head? = some cat)
    (hvals : g.values t i = some vals) (hmem : v ∈ vals)
    (hcomb : combine upper cat (vals.headD []) cur v = some cur') (hx : x ∈ productSpec upper g cur' rest) :
    x ∈ productSpec upper g cur ((t, i) :: rest) := by
  rw [productSpec_cons hcat hvals]
  exact List.mem_flatMap.mpr ⟨v, hmem, by rw [hcomb]; exact hx⟩

variable (upper g)

theorem productSpec_pos (pt : PT) :
    ∀ cur : Str, okSpec upper g cur pt = true → 0 < (productSpec upper g cur pt).length := by
  induction pt with
  | nil => intro cur _; simp [productSpec]
  | cons hd rest ih =>
    obtain ⟨t, i⟩ := hd
    intro cur hok
    obtain ⟨cat, first, vs, hcat, hvals, _, hall⟩ := okSpec_cons hok
    obtain ⟨ng, hng, hokng⟩ := hall first List.mem_cons_self
    exact List.length_pos_of_mem
      (mem_productSpec_cons hcat hvals List.mem_cons_self hng (List.getElem_mem (ih ng hokng)))

/-! `_recursive_guesses` has two copies of the loop (capitalisation masks, plain values) with their own constants; both
are the countdown loop over `combine`, the one step of `productSpec`. -/

variable (omen : Nat → Option (List Str))

/-- one iteration at a non-Markov position of category `cat` with `rest` still to expand -/
def stepBody (cat : Char) (first cur : Str) (rest : PT) (v : Str) (lim : Option Int) : ERes × Int :=
  match combine upper cat first cur v with
  | none => (⟨[], 0, true⟩, 0)
  | some ng =>
    if rest.isEmpty then (⟨[ng], 1, false⟩, 1)
    else (recGuesses upper g omen ng rest lim, ((recGuesses upper g omen ng rest lim).count : Int))

theorem recGuesses_cons (cur : Str) (rest : PT) {cat : Char} {first : Str} {vs : List Str}
    (hcat : t.toList.head? = some cat) (hvals : g.values t i = some (first :: vs))
    (hM : Generated.Expand.isMarkov cat = false) :
    ∃ hit, HitZero hit ∧ recGuesses upper g omen cur ((t, i) :: rest) =
      valuesLoop (stepBody upper g omen cat first cur rest) hit (first :: vs) := by
  have hleaf : (rest.length + 1 == 1) = rest.isEmpty := by cases rest <;> rfl
  by_cases hC : Generated.Expand.isCase cat = true
  · refine ⟨_, hitZero_le, ?_⟩
    funext lim
    simp only [recGuesses, hcat, hvals, hM, hC, Bool.false_eq_true, if_false, if_true, List.head?_cons, Frag.cIsLeaf_eq, hleaf,
      Frag.cLeafHit_eq, Frag.cRecHit_eq, ite_self, Frag.cLeafCount_eq, Frag.cLeafDec_eq]
    congr 1
    funext mask lim'
    simp only [stepBody, combine, hC]
    cases applyMask upper (splitTail cur first.length).2 mask Generated.Expand.maskStart <;> rfl
  · refine ⟨fun l => if rest.isEmpty then l == 0 else decide (l ≤ 0), ?_, ?_⟩
    · cases rest.isEmpty
      · exact hitZero_le
      · exact hitZero_eq
    · funext lim
      simp only [recGuesses, hcat, hvals, hM, hC, Bool.false_eq_true, if_false, Frag.pIsLeaf_eq, hleaf,
        Frag.pLeafHit_eq, Frag.pRecHit_eq, Frag.pLeafCount_eq, Frag.pLeafDec_eq]
      congr 1
      funext item lim'
      simp only [stepBody, combine, hC, Bool.false_eq_true, if_false]

theorem recGuesses_emits (pt : PT) :
    ∀ cur : Str, pt ≠ [] → okSpec upper g cur pt = true →
      Emits (recGuesses upper g omen cur pt) (productSpec upper g cur pt) := by
  induction pt with
  | nil => intro cur h; exact absurd rfl h
  | cons hd rest ih =>
    obtain ⟨t, i⟩ := hd
    intro cur _ hok
    obtain ⟨cat, first, vs, hcat, hvals, hM, hall⟩ := okSpec_cons hok
    obtain ⟨hit, hhit, e⟩ := recGuesses_cons upper g omen cur rest hcat hvals hM
    rw [e, productSpec_cons hcat hvals]
    refine valuesLoop_emits hhit (fun v hv => ?_) (fun v hv lim => ?_)
    · obtain ⟨ng, hng, hokng⟩ := hall v hv
      simp only [stepBody, List.headD_cons, hng]
      cases rest with
      | nil => exact Emits.single ng
      | cons p ps => exact ih ng (by simp) hokng
    · simp only [stepBody]
      split
      · rfl
      · split <;> rfl

end

def ExactLimit (gen : PT → Option Int → ERes) : Prop :=
  ∀ pt, (gen pt none).count = (gen pt none).out.length ∧
    ∀ n : Nat, 1 ≤ n → gen pt (some (n : Int)) = ⟨(gen pt none).out.take n, min n (gen pt none).out.length, false⟩

/-- C09 at session level: if the generator honours a limit on the pre-terminals that are popped, `--limit N` yields the
first `N` lines of the unlimited run (all of them if there are fewer) -/
theorem sessionLoop_limit_on (gen : PT → Option Int → ERes) (pts : List PT)
    (hgen : ∀ pt ∈ pts, ∀ n : Nat, 1 ≤ n →
      gen pt (some (n : Int)) = ⟨(gen pt none).out.take n, min n (gen pt none).out.length, false⟩)
    (n : Nat) (hn : 1 ≤ n) :
    sessionLoop gen pts (some (n : Int)) = (sessionLoop gen pts none).take n := by
  induction pts generalizing n with
  | nil => simp [sessionLoop]
  | cons pt rest ih =>
    have ih := ih (fun p hp => hgen p (List.mem_cons_of_mem _ hp))
    have ⟨e, ht⟩ := HitZero.after (hit := Generated.Expand.sessionHit) hitZero_le n (gen pt none).out.length
    simp only [sessionLoop, limTruthy_pos n hn, limTruthy_none, Bool.false_eq_true, if_false, if_true,
      Option.getD_some, hgen pt List.mem_cons_self n hn, e, ht, decide_eq_true_eq, List.take_append]
    split
    · next hk => rw [Nat.sub_eq_zero_of_le hk, List.take_zero, List.append_nil]
    · next hk => rw [ih _ (Nat.sub_pos_of_lt (Nat.lt_of_not_le hk))]

theorem sessionLoop_none (gen : PT → Option Int → ERes) (pts : List PT) :
    sessionLoop gen pts none = pts.flatMap fun pt => (gen pt none).out := by
  induction pts with
  | nil => rfl
  | cons pt rest ih =>
    unfold sessionLoop
    simp [limTruthy_none, ih]

end Pcfg
