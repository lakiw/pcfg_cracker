import PcfgVerif.Model.LoadMulti
import PcfgVerif.Lemmas.Assoc
/-! `_load_from_multiple_files` and the grammar dict: an assignment replaces the entry of its key, the file listed last under a
variable is the one that counts. -/
namespace Pcfg.LoadMulti
variable {β : Type}

theorem lookup_setVar (g : List (String × β)) (k k' : String) (c : β) :
    lookup (setVar g k c) k' = if k' == k then some c else lookup g k' := by
  unfold lookup setVar
  rw [List.find?_append, List.find?_filter, List.find?_cons, List.find?_nil]
  by_cases h : k' = k
  · -- no entry under `k` passes the filter
    subst h
    rw [if_pos (beq_self_eq_true _), beq_self_eq_true, List.find?_eq_none.mpr fun e _ he =>
      bne_iff_ne.mp (of_decide_eq_true he).1 (beq_iff_eq.mp (of_decide_eq_true he).2)]
    rfl
  · -- every entry under `k'` passes the filter
    rw [if_neg (mt beq_iff_eq.mp h), beq_eq_false_iff_ne.mpr (Ne.symm h), Option.or_none]
    congr 2
    funext e
    rw [Bool.eq_iff_iff, decide_eq_true_iff]
    exact ⟨And.right, fun he => ⟨bne_iff_ne.mpr (beq_iff_eq.mp he ▸ h), he⟩⟩

theorem loadMultiple_lookup (read : String → Option β) (cat : String) (files : List String) (g g' : List (String × β))
    (h : loadMultiple read cat files g = some g') (k : String) :
    lookup g' k = match files.reverse.find? (fun f => cat ++ stem f == k) with
      | some f => read f
      | none => lookup g k := by
  -- the cases are the branches of `loadMultiple` in order
  fun_induction loadMultiple read cat files g with
  | case1 g => cases h; rfl
  | case2 f rest g hr => cases h
  | case3 f rest g c hr ih =>
    rw [ih h, List.reverse_cons, List.find?_append]
    cases rest.reverse.find? (fun f => cat ++ stem f == k) with
    | some f' => rfl
    | none =>
      rw [Option.none_or, List.find?_cons, List.find?_nil, lookup_setVar, BEq.comm]
      cases cat ++ stem f == k
      · rfl
      · exact hr.symm

theorem loadMultiple_each (read : String → Option β) (cat : String) (files : List String) (g g' : List (String × β))
    (h : loadMultiple read cat files g = some g') (hnd : (files.map fun f => cat ++ stem f).Nodup) (f : String) (hf : f ∈ files) :
    lookup g' (cat ++ stem f) = read f := by
  rw [loadMultiple_lookup read cat files g g' h, List.find?_reverse_of_nodup (fun f => cat ++ stem f) files hnd f hf]

theorem loadMultiple_ok (read : String → Option β) (cat : String) (files : List String) (g : List (String × β))
    (h : ∀ f ∈ files, (read f).isSome) : (loadMultiple read cat files g).isSome := by
  fun_induction loadMultiple read cat files g with
  | case1 g => rfl
  | case2 f rest g hr => have := h f List.mem_cons_self; rw [hr] at this; cases this
  | case3 f rest g c hr ih => exact ih fun x hx => h x (List.mem_cons_of_mem _ hx)

end Pcfg.LoadMulti
