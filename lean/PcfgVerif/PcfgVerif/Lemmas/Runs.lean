import PcfgVerif.Lemmas.LoaderLemmas
/-!
# Runs of equal probability

`runs` cuts a written list into its maximal runs of equal probability, in order.  Flattening the runs gives the list back
(`flat_runs`), the decomposition into non-empty blocks of constant probability with differing neighbours is unique (`runs_unique`),
and the groups `_load_from_file` forms (`groups`, compared with `==`) are such a decomposition: the loader model returns `runs` on the
file the trainer writes (`loader_returns_runs`).
-/
namespace Pcfg.Trainer

/-- maximal runs of equal probability, in list order: the groups `_load_from_file` builds (`C07_guesser_roundtrip`) -/
def runs {α : Type} : List (α × Rat) → List (List α × Rat)
  | [] => []
  | (v, p) :: rest =>
    match runs rest with
    | (vs, q) :: gs => if p = q then (v :: vs, q) :: gs else ([v], p) :: (vs, q) :: gs
    | [] => [([v], p)]

theorem flat_runs {α : Type} (l : List (α × Rat)) : (runs l).flatMap (fun g => g.1.map fun v => (v, g.2)) = l := by
  -- the cases are the branches of `runs`: no item; the item joins the first run of the rest; it differs from it; there is no rest
  fun_induction runs l with
  | case1 => rfl
  | case2 _ _ _ _ _ hr ih | case3 _ _ _ _ _ _ hr _ ih | case4 _ _ _ hr ih => rw [← ih, hr]; rfl

theorem runs_mem {α : Type} (l : List (α × Rat)) (v : α) (p : Rat) (h : (v, p) ∈ l) :
    ∃ (j : Nat) (vs : List α), (runs l)[j]? = some (vs, p) ∧ v ∈ vs := by
  rw [← flat_runs l] at h
  obtain ⟨g, hg, hv⟩ := List.mem_flatMap.mp h
  obtain ⟨w, hw, he⟩ := List.mem_map.mp hv
  obtain ⟨j, hj⟩ := List.getElem?_of_mem hg
  cases he
  exact ⟨j, g.1, hj, hw⟩

theorem runs_sub {α : Type} (l : List (α × Rat)) (g : List α × Rat) (hg : g ∈ runs l) (v : α) (hv : v ∈ g.1) :
    ∃ p, (v, p) ∈ l :=
  ⟨g.2, by rw [← flat_runs l]; exact List.mem_flatMap.mpr ⟨g, hg, List.mem_map.mpr ⟨v, hv, rfl⟩⟩⟩

theorem runs_block {α : Type} (vs : List α) (hvs : vs ≠ []) (p : Rat) (rest : List (α × Rat))
    (hd : ∀ g ∈ (runs rest).head?, g.2 ≠ p) :
    runs (vs.map (fun v => (v, p)) ++ rest) = (vs, p) :: runs rest := by
  induction vs with
  | nil => exact absurd rfl hvs
  | cons v more ih =>
    rw [List.map_cons, List.cons_append, runs]
    cases more with
    | nil =>
      rw [List.map_nil, List.nil_append]
      cases hr : runs rest with
      | nil => rfl
      | cons g gs => exact if_neg fun e => hd g (by rw [hr]; rfl) e.symm
    | cons v' more' => rw [ih (List.cons_ne_nil _ _)]; exact if_pos rfl

theorem runs_unique (gs : List (LGroup Rat)) (hne : ∀ g ∈ gs, g.values ≠ [])
    (hadj : ∀ (i : Nat) g1 g2, gs[i]? = some g1 → gs[i + 1]? = some g2 → g2.prob ≠ g1.prob) :
    runs (pairs gs) = gs.map fun g => (g.values, g.prob) := by
  induction gs with
  | nil => rfl
  | cons g rest ih =>
    have ih' := ih (fun x hx => hne x (List.mem_cons_of_mem _ hx)) fun i => hadj (i + 1)
    rw [pairs_cons, runs_block g.values (hne g (by simp)) g.prob (pairs rest) ?_, ih']
    · rfl
    · intro x hx
      rw [ih'] at hx
      cases rest with
      | nil => cases hx
      | cons g2 rest2 => cases hx; exact hadj 0 g g2 rfl rfl

/-- **the loader model applied to the file the trainer writes returns the runs of the written list** (exact rationals; printing
and parsing a probability round-trip, values clean, no probability equal to the loader's sentinel −1) -/
theorem loader_returns_runs (parseP : CPs → Option Rat) (showP : Rat → CPs) (neg1 : Rat)
    (hround : ∀ p, parseP (showP p) = some p) (items : List (CPs × Rat))
    (hclean : ∀ it ∈ items, CleanValue it.1) (hshow : ∀ p, CleanProb (showP p)) (hsent : ∀ it ∈ items, it.2 ≠ neg1) :
    ∃ gs, loadFromFile parseP (fun a b => a == b) neg1 (writeFile (items.map fun it => (it.1, showP it.2))) = some gs ∧
      gs.map (fun g => (g.values, g.prob)) = runs items := by
  refine ⟨_, loadFromFile_shown parseP showP neg1 hround items hclean hshow hsent, ?_⟩
  rw [← runs_unique _ (groups_ne _ items) fun i g1 g2 h1 h2 => ne_of_beq_false (groups_adj _ items i g1 g2 h1 h2),
    pairs_groups_beq]

end Pcfg.Trainer
