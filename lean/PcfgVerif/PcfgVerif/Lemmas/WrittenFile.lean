import PcfgVerif.Model.Loader
import PcfgVerif.Lemmas.TextLemmas
/-! A file the trainer writes (`writeFile`: `value<TAB>probability<LF>` per item) as its readers see it: cut into lines by the codec
reader or in text mode it is the written lines, and a written line splits back into its two fields. -/
namespace Pcfg
variable {P : Type}

theorem writeLine_eq (v p : CPs) : writeLine v p = (v ++ 9 :: p) ++ [10] := by
  simp [writeLine]

/-- the written lines in the shape `splitLinesKeep_flatten` asks for; `Q` is what the reader's boundary test needs of a line body -/
theorem writeFile_lines (Q : Nat → Prop) (h9 : Q 9) (items : List (CPs × CPs))
    (hc : ∀ it ∈ items, (∀ c ∈ it.1, Q c) ∧ ∀ c ∈ it.2, Q c) :
    ∀ l ∈ items.map fun it => writeLine it.1 it.2, ∃ b, l = b ++ [10] ∧ ∀ c ∈ b, Q c :=
  List.forall_mem_map.mpr fun it hit => ⟨it.1 ++ 9 :: it.2, writeLine_eq it.1 it.2,
    List.forall_mem_append.mpr ⟨(hc it hit).1, List.forall_mem_cons.mpr ⟨h9, (hc it hit).2⟩⟩⟩

theorem codecLines_writeFile' (items : List (CPs × CPs))
    (hc : ∀ it ∈ items, (∀ c ∈ it.1, isLineSep c = false) ∧ (∀ c ∈ it.2, isLineSep c = false)) :
    codecLines (writeFile items) = items.map fun it => writeLine it.1 it.2 :=
  splitLinesKeep_flatten isLineSep isLineSep_10 _ (writeFile_lines (isLineSep · = false) isLineSep_9 items hc)

namespace Trainer
theorem textModeLines_writeFile (items : List (CPs × CPs))
    (hc : ∀ it ∈ items, (∀ c ∈ it.1, c ≠ 10 ∧ c ≠ 13) ∧ it.2 ≠ [] ∧ (∀ c ∈ it.2, c ≠ 10 ∧ c ≠ 13)) :
    textModeLines (writeFile items) = items.map fun it => writeLine it.1 it.2 :=
  textModeLines_flatten _ (writeFile_lines (fun c => c ≠ 10 ∧ c ≠ 13) (by decide) items fun it hit =>
    ⟨(hc it hit).1, (hc it hit).2.2⟩)
end Trainer

/-- a value the line-oriented format can carry: no line boundary, no TAB, no lone surrogate -/
def CleanValue (v : CPs) : Prop := ∀ c ∈ v, isLineSep c = false ∧ c ≠ 0x09 ∧ isSurrogate c = false

/-- a probability text as `str(float)` produces it: non-empty, no whitespace, no line boundary -/
def CleanProb (p : CPs) : Prop :=
  p ≠ [] ∧ ∀ c ∈ p, isLineSep c = false ∧ c ≠ 0x09 ∧ isPySpace c = false ∧ isSurrogate c = false

/-- a written line whose fields can be carried by the format (`CleanValue it.1 ∧ CleanProb it.2`, unfolded) -/
def CleanItem (it : CPs × CPs) : Prop :=
  (∀ c ∈ it.1, isLineSep c = false ∧ c ≠ 0x09 ∧ isSurrogate c = false) ∧
  (it.2 ≠ [] ∧ ∀ c ∈ it.2, isLineSep c = false ∧ c ≠ 0x09 ∧ isPySpace c = false ∧ isSurrogate c = false)

/-- `codecLines_writeFile'` as the list loaders call it; an OMEN level file has n-grams, which are no `CleanProb`, in the second field -/
theorem codecLines_writeFile (items : List (CPs × CPs)) (hc : ∀ it ∈ items, CleanValue it.1 ∧ CleanProb it.2) :
    codecLines (writeFile items) = items.map fun it => writeLine it.1 it.2 :=
  codecLines_writeFile' items fun it hit =>
    ⟨fun c hcm => ((hc it hit).1 c hcm).1, fun c hcm => ((hc it hit).2.2 c hcm).1⟩

/-- a written line splits back into its two fields: `rstrip` stops at the last character of the probability text, the only TAB is
the one written between the fields -/
theorem split_writeLine (v p : CPs) (hv : CleanValue v) (hp : CleanProb p) :
    pySplit 0x09 (rstripWs (writeLine v p)) = [v, p] := by
  rw [writeLine, rstripWs_append _ _ (List.forall_mem_singleton.mpr isPySpace_10)
      (forall_getLast?_append _ hp.1 fun c hc => (hp.2 c hc).2.2.1),
    List.append_assoc, List.singleton_append, pySplit,
    splitOnCp_field 9 v p [] fun c hc => (hv c hc).2.1, splitOnCp_no_sep 9 p [] fun c hc => (hp.2 c hc).2.1]
  rfl

theorem any_surrogate_writeLine (v p : CPs) (hv : CleanValue v) (hp : CleanProb p) :
    (writeLine v p).any isSurrogate = false := by
  rw [writeLine_eq, List.any_append, List.any_append, List.any_cons,
    List.any_eq_false.mpr fun c hc => Bool.eq_false_iff.mp (hv c hc).2.2,
    List.any_eq_false.mpr fun c hc => Bool.eq_false_iff.mp (hp.2 c hc).2.2.2, isSurrogate_9]
  rfl

/-- the written items as a loader sees them: each value with its parsed probability -/
def parsed (parseP : CPs → Option P) (items : List (CPs × CPs)) : List (CPs × P) :=
  items.filterMap fun it => (parseP it.2).map fun p => (it.1, p)

theorem parsed_cons (parseP : CPs → Option P) (it : CPs × CPs) (items : List (CPs × CPs)) (p : P) (hq : parseP it.2 = some p) :
    parsed parseP (it :: items) = (it.1, p) :: parsed parseP items := by
  simp [parsed, hq]

theorem parsed_map_fst (parseP : CPs → Option P) (items : List (CPs × CPs)) (hp : ∀ it ∈ items, (parseP it.2).isSome) :
    (parsed parseP items).map (·.1) = items.map (·.1) := by
  induction items with
  | nil => rfl
  | cons it items ih =>
    obtain ⟨p, hq⟩ := Option.isSome_iff_exists.mp (hp it (List.mem_cons_self ..))
    rw [parsed_cons parseP it items p hq, List.map_cons, List.map_cons, ih fun x hx => hp x (List.mem_cons_of_mem _ hx)]

theorem parsed_getElem? (parseP : CPs → Option P) (items : List (CPs × CPs)) (hp : ∀ it ∈ items, (parseP it.2).isSome)
    (i : Nat) (it : CPs × CPs) (h : items[i]? = some it) :
    ∃ p, parseP it.2 = some p ∧ (parsed parseP items)[i]? = some (it.1, p) := by
  induction items generalizing i with
  | nil => cases h
  | cons y rest ih =>
    obtain ⟨p, hq⟩ := Option.isSome_iff_exists.mp (hp y (List.mem_cons_self ..))
    rw [parsed_cons parseP y rest p hq]
    cases i with
    | zero => cases h; exact ⟨p, hq, rfl⟩
    | succ i => exact ih (fun x hx => hp x (List.mem_cons_of_mem _ hx)) i h

end Pcfg
