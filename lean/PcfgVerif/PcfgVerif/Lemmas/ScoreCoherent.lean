import PcfgVerif.Lemmas.ParseLabelled
/-! What `C13_coherent` states: coherence of the parser's lists with its sections, read off `parse_labelled`
category by category.  The promise (`ScorePromise`) rests on `parse_labelled` itself, not on this reading. -/
namespace Pcfg.Detect

theorem textsOf_eq (secs : List Sec) (c : Char) :
    textsOf secs c =
      (labelled secs).filterMap fun x => if labelCat (some x.1) = some c then some x.2 else none := by
  rw [labelled, List.filterMap_filterMap]
  exact congrArg (List.filterMap · secs) (funext fun ⟨_, l⟩ => by cases l <;> rfl)

/-- category `c` of a block of items that are all of category `k` -/
theorem filterMap_lbl (k c : Char) (n : CPs → Nat) (l : List CPs) :
    ((l.map fun v => (lbl k (n v), v)).filterMap fun x => if labelCat (some x.1) = some c then some x.2 else none) =
      if k = c then l else [] := by
  by_cases h : k = c <;> simp [List.filterMap_map, Function.comp_def, labelCat_lbl, h]

/-- the lists the parser produces are, category by category, the texts of the labelled sections -/
theorem parse_coherent (U : UEnv) (cfg : MWCfg) (t : MWTable) (pw : CPs) (hne : pw ≠ [])
    (hl : LenPres U pw) : Coherent U pw (parse U cfg t pw) := by
  obtain ⟨-, -, ew, recs, hew, ha, hm, hrec, hy, hperm⟩ := parse_labelled U cfg t pw hne hl
  have hlab := parse_labelOK U cfg t pw hne hl
  generalize parse U cfg t pw = p at *
  -- category `c` of the reported items, block by block, is category `c` of the sections
  have H : ∀ c, List.Perm
      ((if 'O' = c then p.others else []) ++ ((if 'D' = c then p.digits else []) ++
      ((if 'A' = c then recs.map (·.orig) else []) ++ ((if 'X' = c then p.contexts else []) ++
      ((if 'Y' = c then p.years else []) ++
      ((if 'E' = c ∨ 'W' = c then ew.filterMap fun x => if labelCat (some x.1) = some c then some x.2 else none
        else []) ++
      (if 'K' = c then p.walks else [])))))))
      (textsOf p.sections c) := by
    intro c
    have hA : recs.map recPair = (recs.map (·.orig)).map fun v => (lbl 'A' v.length, v) := by
      rw [List.map_map]; rfl
    rw [textsOf_eq]
    refine .trans (.of_eq ?_) (hperm.filterMap _).symm
    -- `X1`, `Y1` are `lbl`s too (rewritten, not unified: the unifier would decode the strings)
    rw [reported, ← lbl_X1, ← lbl_Y1, hA]
    simp only [List.filterMap_append, filterMap_lbl, filterMap_lbl _ c fun _ => 1]
    -- an e-mail or website item is of no category but `E`, `W`
    rw [ite_eq_left_iff.mpr fun hc => .symm <| List.filterMap_eq_nil_iff.mpr fun x hx => if_neg fun e => hc <|
      (hew x hx).imp (fun h => Option.some.inj (.trans (by decide) (h ▸ e)))
        fun h => Option.some.inj (.trans (by decide) (h ▸ e))]
  have hyears : p.years.Perm (textsOf p.sections 'Y') := by simpa using H 'Y'
  exact {
    walks := by simpa using H 'K'
    years := hyears
    contexts := by simpa using H 'X'
    digits := by simpa using H 'D'
    others := by simpa using H 'O'
    alpha := ⟨recs, ha, hm, by simpa using H 'A', hrec⟩
    labels := hlab
    -- a `Y1` section is one of the years
    year_len := fun s hs hyl => hy _ (hyears.mem_iff.mpr
      (List.mem_filterMap.mpr ⟨s, hs, by rw [hyl, ← lbl_Y1]; exact if_pos (labelCat_lbl ..)⟩)) }
end Pcfg.Detect
