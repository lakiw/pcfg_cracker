import PcfgVerif.Model.Trainer
import PcfgVerif.Lemmas.Counter
import PcfgVerif.Lemmas.ProbsLemmas
import PcfgVerif.Model.Scorer
/-!
# The lists the trainer writes

Every counter goes through `calculate_probabilities` (exact rationals): `listOf` for a Counter, `baseList` for `grammar.txt` (with
the Markov pseudo-count), `scoreGOf` for the whole grammar as the scorer reads it.  What is written for positive counts is
positive, so a counted key is found with a non-zero probability; nothing written is negative.
-/
namespace Pcfg.Trainer
open Pcfg.Detect

theorem rat_markov_pos (n cov : Rat) (hn : 0 < n) (h0 : 0 < cov) (h1 : cov < 1) : 0 < n / cov - n := by
  rw [← Rat.lt_iff_sub_pos, Rat.lt_div_iff h0]
  have := Rat.mul_lt_mul_of_pos_left h1 hn
  rwa [Rat.mul_one] at this

theorem rat_sum_nonneg (l : List Rat) (h : ∀ x ∈ l, 0 ≤ x) : 0 ≤ l.sum := by
  induction l with
  | nil => exact Rat.le_refl
  | cons x xs ih =>
    exact Rat.add_nonneg (h x (List.mem_cons_self ..)) (ih fun y hy => h y (List.mem_cons_of_mem _ hy))

theorem rat_sum_pos (l : List Rat) (h : ∀ x ∈ l, 0 < x) (hne : l ≠ []) : 0 < l.sum := by
  cases l with
  | nil => exact absurd rfl hne
  | cons x xs =>
    have hx : 0 + xs.sum < x + xs.sum := Rat.add_lt_add_right.mpr (h x (List.mem_cons_self ..))
    rw [Rat.zero_add] at hx
    exact Std.lt_of_le_of_lt (rat_sum_nonneg xs fun y hy => Rat.le_of_lt (h y (List.mem_cons_of_mem _ hy))) hx

/-- the scorer's look-up of a value in one list (`ScoreG.look`, once the list is found by name) -/
def lookIn {α : Type} [BEq α] (items : List (α × Rat)) (v : α) : Rat := ((items.find? (·.1 == v)).map (·.2)).getD 0

section
variable {α : Type} [BEq α] [LawfulBEq α] (items : List (α × Rat)) (v : α)

theorem lookIn_spec : (v, lookIn items v) ∈ items ∨ lookIn items v = 0 ∧ ∀ b, (v, b) ∉ items := by
  unfold lookIn
  cases hf : items.find? (·.1 == v) with
  | none => exact Or.inr ⟨rfl, fun b hb => List.find?_eq_none.mp hf (v, b) hb (beq_self_eq_true v)⟩
  | some q =>
    have hk := List.find?_some hf
    exact Or.inl (beq_iff_eq.mp hk ▸ List.mem_of_find?_eq_some hf)

theorem mem_of_look (h : lookIn items v ≠ 0) : (v, lookIn items v) ∈ items :=
  (lookIn_spec items v).resolve_right fun h' => h h'.1

theorem lookIn_ne_zero (hpos : ∀ p ∈ items, 0 < p.2) (b : Rat) (hv : (v, b) ∈ items) : lookIn items v ≠ 0 :=
  (lookIn_spec items v).elim (fun h => Rat.ne_of_gt (hpos (v, lookIn items v) h)) fun h => absurd hv (h.2 b)

end

section
variable {α : Type} (items : List (α × Rat))

theorem calcProbs_snd (p : α × Rat) (hp : p ∈ calcProbs ratOps items) :
    ∃ c, (p.1, c) ∈ items ∧ p.2 = c / (items.map (·.2)).sum := by
  obtain ⟨c, hc, hq⟩ := (calcProbs_mem ratOps items p.1 p.2).mp hp
  exact ⟨c, hc, by rw [hq, totalCount_rat]; rfl⟩

theorem calcProbs_pos (hpos : ∀ p ∈ items, 0 < p.2) : ∀ p ∈ calcProbs ratOps items, 0 < p.2 := by
  intro p hp
  obtain ⟨c, hc, hq⟩ := calcProbs_snd items p hp
  rw [hq, Rat.div_def]
  exact Rat.mul_pos (hpos (p.1, c) hc) (Rat.inv_pos.mpr
    (rat_sum_pos _ (List.forall_mem_map.mpr hpos) (List.ne_nil_of_mem (List.mem_map_of_mem hc))))

theorem calcProbs_nonneg (hpos : ∀ p ∈ items, 0 ≤ p.2) : ∀ p ∈ calcProbs ratOps items, 0 ≤ p.2 := by
  intro p hp
  obtain ⟨c, hc, hq⟩ := calcProbs_snd items p hp
  rw [hq, Rat.div_def]
  exact Rat.mul_nonneg (hpos (p.1, c) hc) (Lean.Grind.Field.IsOrdered.inv_nonneg_iff.mpr
    (rat_sum_nonneg _ (List.forall_mem_map.mpr hpos)))

end

def toQ {α : Type} (t : List (α × Nat)) : List (α × Rat) := t.map fun p => (p.1, (p.2 : Rat))

def listOf (t : MWTable) : List (CPs × Rat) := calcProbs ratOps (toQ t)

def lenLists (ch : Char) (d : LenCtr) : ScoreG Rat := d.map fun e => (lbl ch e.1, listOf e.2)

/-- `Grammar/grammar.txt`: the supported base structures, plus `M` according to the coverage -/
def baseList (cov : Rat) (n : Nat) (b : SCtr) : List (CPs × Rat) :=
  (calcProbs ratOps (withMarkov ratOps (· - ·) 1 (· == 1) (· == 0) "M" cov (n : Rat) (toQ b))).map
    fun p => (cpsOfString p.1, p.2)

def scoreGOf (cov : Rat) (n : Nat) (c : Counters) : ScoreG Rat :=
  lenLists 'K' c.keyboard ++ (lenLists 'A' c.alpha ++ (lenLists 'C' c.masks ++ (lenLists 'D' c.digits ++
    (lenLists 'O' c.other ++ [("Y", listOf c.years), ("X", listOf c.context), ("B", baseList cov n c.base)]))))

theorem toQ_pos {α : Type} (t : List (α × Nat)) (h : CtrPos t) : ∀ p ∈ toQ t, (0 : Rat) < p.2 :=
  List.forall_mem_map.mpr fun q hq => Rat.natCast_pos.mpr (h q hq)

theorem mem_toQ {α : Type} (t : List (α × Nat)) (v : α) (k : Nat) (h : (v, k) ∈ t) : (v, (k : Rat)) ∈ toQ t :=
  List.mem_map.mpr ⟨(v, k), h, rfl⟩

theorem listOf_keys (t : MWTable) (it : CPs × Rat) (h : it ∈ listOf t) : ∃ k, (it.1, k) ∈ t := by
  obtain ⟨c, hc, _⟩ := calcProbs_snd (toQ t) it h
  obtain ⟨q, hq, he⟩ := List.mem_map.mp hc
  exact ⟨q.2, by rw [← congrArg Prod.fst he]; exact hq⟩

theorem listOf_ne_zero (t : MWTable) (hp : CtrPos t) (v : CPs) (hv : 0 < t.count v) : lookIn (listOf t) v ≠ 0 := by
  obtain ⟨c, hc⟩ := mem_of_ctrGet_pos t v hv
  exact lookIn_ne_zero _ v (calcProbs_pos (toQ t) (toQ_pos t hp)) _
    ((calcProbs_mem ratOps (toQ t) v _).mpr ⟨c, mem_toQ t v c hc, rfl⟩)

/-- written probabilities are not negative (in particular never the loader's start value −1) -/
theorem listOf_nonneg (t : MWTable) : ∀ it ∈ listOf t, 0 ≤ it.2 :=
  calcProbs_nonneg (toQ t) (List.forall_mem_map.mpr fun _ _ => Rat.natCast_nonneg)

theorem mem_withMarkov {Q α : Type} {O : QOps Q} {sub : Q → Q → Q} {one : Q} {isOne isZero : Q → Bool} {mKey : α}
    {coverage n : Q} {items : List (α × Q)} {x : α × Q} (h : x ∈ withMarkov O sub one isOne isZero mKey coverage n items) :
    x ∈ items ∨ x.1 = mKey := by
  unfold withMarkov at h
  by_cases h1 : isOne coverage = true
  · exact Or.inl (by rwa [if_pos h1] at h)
  by_cases h0 : isZero coverage = true
  · rw [if_neg h1, if_pos h0] at h; exact Or.inr (by rw [List.mem_singleton.mp h])
  · rw [if_neg h1, if_neg h0] at h; exact (List.mem_append.mp h).imp_right fun h => by rw [List.mem_singleton.mp h]

theorem withMarkov_rat (cov n : Rat) (h0 : 0 < cov) (items : List (String × Rat)) :
    withMarkov ratOps (· - ·) 1 (· == 1) (· == 0) "M" cov n items =
      items ++ if cov = 1 then [] else [("M", n / cov - n)] := by
  unfold withMarkov
  by_cases h1 : cov = 1
  · rw [if_pos (beq_iff_eq.mpr h1), if_pos h1, List.append_nil]
  · rw [if_neg (mt beq_iff_eq.mp h1), if_neg (mt beq_iff_eq.mp (Rat.ne_of_gt h0)), if_neg h1]; rfl

theorem baseList_keys (cov : Rat) (n : Nat) (b : SCtr) (it : CPs × Rat) (h : it ∈ baseList cov n b) :
    it.1 = cpsOfString "M" ∨ ∃ q ∈ b, it.1 = cpsOfString q.1 := by
  obtain ⟨kp, hkp, rfl⟩ := List.mem_map.mp h
  obtain ⟨c, hc, _⟩ := calcProbs_snd _ kp hkp
  rcases mem_withMarkov hc with hc | hc
  · obtain ⟨q, hq, he⟩ := List.mem_map.mp hc
    have hk : q.1 = kp.1 := congrArg Prod.fst he
    exact Or.inr ⟨q, hq, by rw [hk]⟩
  · exact Or.inl (by rw [show kp.1 = "M" from hc])

theorem baseList_ne_zero (cov : Rat) (h0 : 0 < cov) (h1 : cov ≤ 1) (n : Nat) (hn : 0 < n) (b : SCtr) (hb : CtrPos b)
    (s : String) (k : Nat) (hs : (s, k) ∈ b) : lookIn (baseList cov n b) (cpsOfString s) ≠ 0 := by
  unfold baseList
  rw [withMarkov_rat cov n h0]
  -- the written pair `a` is given: left to unification, `cpsOfString` gets unfolded
  refine lookIn_ne_zero _ _ (List.forall_mem_map.mpr (calcProbs_pos _ fun p hp => ?_)) _
    (List.mem_map_of_mem (f := fun p => (cpsOfString p.1, p.2)) (a := (s, _))
      ((calcProbs_mem ratOps _ s _).mpr ⟨k, List.mem_append_left _ (mem_toQ b s k hs), rfl⟩))
  rcases List.mem_append.mp hp with hp | hp
  · exact toQ_pos b hb p hp
  · split at hp
    · cases hp
    · rw [List.mem_singleton.mp hp]
      exact rat_markov_pos _ _ (Rat.natCast_pos.mpr hn) h0 (Rat.lt_of_le_of_ne h1 ‹_›)

end Pcfg.Trainer
