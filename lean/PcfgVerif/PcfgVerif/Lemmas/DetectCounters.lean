import PcfgVerif.Model.Counters
import PcfgVerif.Lemmas.Counter
/-! The trainer's Counters (`MWTable`: item ↦ count; `LenCtr`: length ↦ Counter), Python dicts kept as association lists in
insertion order.  `MWTable.count` and `MWTable.bump · · none` are `Trainer.ctrGet` and `Trainer.ctrInc` by definition, and
`LenCtr.get`, `LenCtr.add` the dict look-up and update (`Omen.assocGet_assocUpd`); so both tables are read off as plain Counters
fed by a fold: the Counter filed under length n is fed the items of length n (`get_update`), the multi-word table the qualifying
runs of each password (`mwTrain_eq`), and what is counted is `Trainer.ctrGet_foldl`. -/
namespace Pcfg.Detect
open Omen (assocGet assocUpd assocGet_assocUpd assocGet_eq_some_iff assocUpd_keys_nodup)
open Trainer (ctrInc ctrGet_inc ctrGet_foldl)

theorem LenCtr.get_eq (d : LenCtr) (n : Nat) : d.get n = (assocGet d n).getD [] := rfl

theorem LenCtr.add_eq (d : LenCtr) (x : CPs) :
    d.add x = assocUpd d x.length fun o => MWTable.bump (o.getD []) x none := rfl

theorem count_nil (x : CPs) : MWTable.count [] x = 0 := rfl

theorem get_nil (n : Nat) : LenCtr.get [] n = [] := rfl

/-- `counter[w] += 1` -/
theorem count_bump (t : MWTable) (w x : CPs) :
    (t.bump w none).count x = t.count x + (if x = w then 1 else 0) := by
  have := ctrGet_inc t w x
  simp only [beq_iff_eq, eq_comm (a := w)] at this
  exact this

theorem LenCtr.get_add (d : LenCtr) (x : CPs) (n : Nat) :
    (d.add x).get n = if n == x.length then (d.get n).bump x none else d.get n := by
  rw [LenCtr.get_eq, LenCtr.add_eq, assocGet_assocUpd, LenCtr.get_eq]
  cases h : n == x.length
  · rfl
  · rw [beq_iff_eq.mp h]; rfl

/-- a dict of Counters is a Counter of Counters: the one of length n is the plain Counter of the items of length n -/
theorem get_update (d : LenCtr) (items : List CPs) (n : Nat) :
    (updateLenIndexed d items).get n = (items.filter (n == ·.length)).foldl ctrInc (d.get n) := by
  unfold updateLenIndexed
  induction items generalizing d with
  | nil => rfl
  | cons x r ih =>
    rw [List.foldl_cons, ih, LenCtr.get_add, List.filter_cons]
    cases n == x.length <;> rfl

theorem update_count (d : LenCtr) (items : List CPs) (y : CPs) (n : Nat) :
    ((updateLenIndexed d items).get n).count y = (d.get n).count y + (if y.length = n then items.count y else 0) := by
  rw [get_update]
  refine (ctrGet_foldl _ _ y).trans (congrArg _ ?_)
  split
  · rename_i h; exact List.count_filter (beq_iff_eq.mpr h.symm)
  · rename_i h; exact List.count_eq_zero_of_not_mem fun hm => h (beq_iff_eq.mp (List.mem_filter.mp hm).2).symm

theorem add_keys_nodup (d : LenCtr) (x : CPs) (h : (d.map (·.1)).Nodup) : ((d.add x).map (·.1)).Nodup := by
  rw [LenCtr.add_eq]; exact assocUpd_keys_nodup d x.length _ h

theorem update_keys_nodup (d : LenCtr) (items : List CPs) (h : (d.map (·.1)).Nodup) :
    ((updateLenIndexed d items).map (·.1)).Nodup := by
  unfold updateLenIndexed
  induction items generalizing d with
  | nil => exact h
  | cons x rest ih => exact ih _ (add_keys_nodup d x h)

theorem mem_update (items : List CPs) (e : Nat × MWTable) (he : e ∈ updateLenIndexed [] items) :
    e.2 = (items.filter (e.1 == ·.length)).foldl ctrInc [] := by
  have h := get_update [] items e.1
  rwa [LenCtr.get_eq, (assocGet_eq_some_iff (update_keys_nodup [] items List.nodup_nil)).mpr he] at h

/-- the multi-word table is a Counter too: one password feeds it its qualifying runs (lower-cased maximal alpha runs that are long
enough, if the password is of admissible length) -/
theorem mwTrain_eq (U : UEnv) (cfg : MWCfg) (t : MWTable) (p : CPs) :
    mwTrain U cfg t p =
      (if p.length < cfg.minLen || p.length > cfg.maxLen then []
        else (alphaRuns U (U.lowerPy p) []).filter fun r => decide (cfg.minLen ≤ r.length)).foldl ctrInc t := by
  unfold mwTrain
  by_cases h : (p.length < cfg.minLen || p.length > cfg.maxLen) = true
  · rw [if_pos h, if_pos h]; rfl
  · rw [if_neg h, if_neg h, List.foldl_filter]; simp only [decide_eq_true_eq]; rfl

/-- the multi-word table after any training history, starting from any table: the count of a word has grown by the number of
qualifying occurrences (lower-cased maximal alpha runs, of passwords of admissible length) in the history -/
theorem mwTrain_count (U : UEnv) (cfg : MWCfg) (history : List CPs) (t : MWTable) (w : CPs) :
    mwCount (history.foldl (fun t p => mwTrain U cfg t p) t) w = mwCount t w +
      (history.flatMap fun p =>
        if p.length < cfg.minLen || p.length > cfg.maxLen then []
        else (alphaRuns U (U.lowerPy p) []).filter fun r => decide (cfg.minLen ≤ r.length)).count w := by
  rw [funext fun t => funext (mwTrain_eq U cfg t), ← List.foldl_flatMap]
  exact ctrGet_foldl _ t w

end Pcfg.Detect
