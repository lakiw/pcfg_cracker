import PcfgVerif.Properties.SourceTables.ProcessState
import PcfgVerif.Generated.ProcessState
import PcfgVerif.Properties.OmenTrainCore
import PcfgVerif.Generated.OmenFacts
import PcfgVerif.Lemmas.OmenSim
import PcfgVerif.Lemmas.OmenCount
import PcfgVerif.Lemmas.OmenScorer
/-!
# C11 — trainer, scorer and guesser agree on every string's OMEN level

`TTables` = the trainer's tables after smoothing; `trainerLevel` = `find_omen_level`, `scorerLevel` = `OmenScorer.parse`,
`toTables` = the closed form of what the guesser's loader builds from the files.  `TTables.WF` = every key / letter once,
keys of length n−1, levels within 0..maxLevel, n-gram ≥ 2.

Over the tables: `C11_scorer`, `C11_spec`, `C11_guesser`, `C11_out_of_range`.  Over the files (`loadTables`, `loadScorer`:
the two loaders on the records the trainer writes): `C11_guesser_from_files`, `C11_scorer_from_files`.  From the training
list: `WF` holds of what the trainer builds (`C11_trained_tables_wf`, `C11_alphabet`), hence `C11_trained` without a
hypothesis on tables or files (its generator clause stands under `tb.start = some s0`); the level function `_calc_level`
enters through its clamp only (`C11_calc_level_clamps`, `C11_trained_any_smoothing`: the logarithm and the floor do not
reduce in the kernel).  `trainerLevel` has the lower length bound `ngram`, which is `find_omen_level`'s `min_length` as
`run_trainer` builds the tables (it passes none); with `minLength` above `ngram` the code also returns −1 for the lengths
in between, which `trainerLevel` does not model.  `toTTables` applies `lvl` also where `_calc_level` divides by zero (a total
of 0 under a non-empty grammar: `ba`, `ca` over the alphabet `a`); there `apply_smoothing` raises, no file is written, and the
statements from the training list speak of tables the trainer never builds.  Left to the correspondence run: that the three
implementations are these functions (compared on training, perturbed and boundary strings).
-/
namespace Pcfg.C11
open Omen

/-- scorer = trainer, for every string (both over the trainer's tables) -/
theorem C11_scorer (t : TTables) (hwf : t.WF) (s : Str) : t.scorerLevel s = t.trainerLevel s :=
  scorerLevel_eq_trainerLevel t hwf.ngram_ge s

/-- the level specification over the guesser's loaded tables = the trainer's level, for every string
(unknown letters, shorter than the n-gram, exactly that long, longer than the maximum) -/
theorem C11_spec (t : TTables) (hwf : t.WF) (s : Str) :
    t.toTables.levelOf (t.ngram - 1) s = t.trainerLevel s :=
  levelOf_eq_trainerLevel t hwf.good s

/-- guesser = trainer: the Markov generator run over `toTables` emits `s` at level `L` (once) iff the trainer
assigns `L`; strings without a trainer level are never generated.  (The per-level counts of the trainer's third
pass are counts of these strings: `C18_third_pass_counts`.) -/
theorem C11_guesser (t : TTables) (hwf : t.WF) (target : Nat)
    (s0 : CState) (hs : t.toTables.start = some s0) :
    ∃ N, (∀ fuel, N ≤ fuel → t.toTables.enumFrom target fuel s0 = t.toTables.enumFrom target N s0) ∧
      (t.toTables.enumFrom target N s0).Nodup ∧
      ∀ s : Str, s ∈ t.toTables.enumFrom target N s0 ↔ t.trainerLevel s = some target := by
  obtain ⟨E, N, h, h2, h3, _⟩ := emitted_spec t hwf.good target s0 hs
  obtain ⟨h1, rfl⟩ := settles h
  exact ⟨N, h1, h2, h3⟩

/-- `C11_guesser` on the bigram tables of `OmenTrainCore` -/
example (target : Nat) :
    ∃ N, (∀ fuel, N ≤ fuel → exTT.toTables.enumFrom target fuel ⟨⟨0, 0, 0, 0⟩, []⟩ =
        exTT.toTables.enumFrom target N ⟨⟨0, 0, 0, 0⟩, []⟩) ∧
      (exTT.toTables.enumFrom target N ⟨⟨0, 0, 0, 0⟩, []⟩).Nodup ∧
      ∀ s : Str, s ∈ exTT.toTables.enumFrom target N ⟨⟨0, 0, 0, 0⟩, []⟩ ↔
        exTT.trainerLevel s = some target :=
  C11_guesser exTT exTT_wf target _ exTT_start

/-- strings shorter than the n-gram size or longer than the length table have no level, for the trainer and for
the scorer (for the generator: `C11_guesser`) -/
theorem C11_out_of_range (t : TTables) (s : Str) (h : s.length < t.ngram ∨ s.length > t.lns.length) :
    t.trainerLevel s = none ∧ t.scorerLevel s = none :=
  -- both functions open with the same test of the length
  have hc : (decide (s.length < t.ngram) || decide (s.length > t.lns.length)) = true :=
    Bool.or_eq_true_iff.2 (h.imp decide_eq_true decide_eq_true)
  ⟨if_pos hc, if_pos hc⟩

/-- **guesser = trainer, over the files.**  `loadTables` is the guesser's `load_rules` (its `_load_ngrams` / `_load_length`
folds, `Model/OmenFiles.lean`) on the records the trainer writes to `IP.level`, `CP.level`, `LN.level`: the load succeeds, the
generator starts where it starts over `toTables`, and run over the loaded tables it emits `s` at level `L` (once) iff the
trainer assigns `L` to `s` — `toTables` is the closed form of the tables, `loadTables` the loader run on the written records. -/
theorem C11_guesser_from_files (t : TTables) (hwf : t.WF) (target : Nat) :
    ∃ tb, t.loadTables = some tb ∧ tb.start = t.toTables.start ∧
      ∀ s0, tb.start = some s0 →
        ∃ N, (∀ fuel, N ≤ fuel → tb.enumFrom target fuel s0 = tb.enumFrom target N s0) ∧
          (tb.enumFrom target N s0).Nodup ∧
          ∀ s : Str, s ∈ tb.enumFrom target N s0 ↔ t.trainerLevel s = some target := by
  obtain ⟨tb, hload, hstart, h⟩ := emitted_spec_files t hwf.good target
  refine ⟨tb, hload, hstart, fun s0 hs0 => ?_⟩
  obtain ⟨E, N, h, h2, h3, _⟩ := h s0 hs0
  obtain ⟨h1, rfl⟩ := settles h
  exact ⟨N, h1, h2, h3⟩

/-- non-vacuity: the bigram example loads and starts -/
example : ∃ tb s0, exTT.loadTables = some tb ∧ tb.start = some s0 := by
  obtain ⟨tb, h1, h2, _⟩ := C11_guesser_from_files exTT exTT_wf 0
  exact ⟨tb, _, h1, h2.trans exTT_start⟩

/-- **scorer = trainer, over the files.**  `loadScorer` is `OmenScorer._load_omen` on the records of `IP.level`, `CP.level`,
`LN.level` (dict assignment per line; the n-gram size read off the first `CP.level` line, −1 when there is none), `STabs.parse`
is `OmenScorer.parse` on those dictionaries: for every string it returns the level the trainer assigns. -/
theorem C11_scorer_from_files (t : TTables) (hwf : t.WF) (s : Str) :
    (loadScorer t.ipLines t.cpLines t.lnLines).parse s = t.trainerLevel s :=
  (scorer_from_files t hwf.good s).trans (C11_scorer t hwf s)

/-- **the hypothesis `WF` is a theorem for what the trainer builds.**  `trainTTables` is the OMEN half of the trainer as a
function of the password list (`Model/OmenCount.lean`: `AlphabetGenerator`, `AlphabetLookup.parse`, `apply_smoothing`); `lvl` is
`_calc_level`, of which only the clamp to `0..maxLevel` is used (`log` / `floor` are opaque to the kernel).  For every password
list, alphabet size, n-gram size ≥ 2 and length window the smoothed tables have every (n−1)-gram once, every next letter once per
(n−1)-gram, keys of length n−1 and all levels within `0..maxLevel`. -/
theorem C11_trained_tables_wf (lvl : Nat → Nat → Nat → Nat) (alphabetSize ngram minLength maxLength maxLevel : Nat)
    (hn : 2 ≤ ngram) (hl : ∀ a b c, lvl a b c ≤ maxLevel) (pws : List Str) :
    (trainTTables lvl alphabetSize ngram minLength maxLength maxLevel pws).WF :=
  let g := trainTTables_good lvl alphabetSize ngram minLength maxLength maxLevel hn hl pws
  ⟨g.ngram_ge, g.keys_nodup, g.key_len, g.letters_nodup, g.ip_levels, g.cp_levels, g.ln_levels⟩

/-- the alphabet the first pass learns ("for every ... alphabet size"): at most `size` letters, none twice, each one a counted
letter (`alphabetCounts`: the letters of the passwords at least `ngram` long), the front of the stable sort by decreasing count -/
theorem C11_alphabet (size ngram : Nat) (pws : List Str) :
    (alphabetOf size ngram pws).length ≤ size ∧ (alphabetOf size ngram pws).Nodup ∧
    (∀ c ∈ alphabetOf size ngram pws, c ∈ (alphabetCounts ngram pws).map (·.1)) ∧
    alphabetOf size ngram pws =
      (((alphabetCounts ngram pws).mergeSort fun a b => decide (a.2 ≥ b.2)).take size).map (·.1) :=
  alphabetOf_spec size ngram pws

/-- **C11 from the training list to the guess**, no hypothesis about tables or files left but the generator's
`tb.start = some s0` (`start = none` is `_find_first_object` raising): for every training list and every string, the scorer's
`parse` on the dictionaries it loads from the trainer's files returns the trainer's level, the guesser's loader accepts the
files, and the generator run over the loaded tables emits the string at level `L` (once) iff `find_omen_level` assigns `L`
to it -/
theorem C11_trained (lvl : Nat → Nat → Nat → Nat) (alphabetSize ngram minLength maxLength maxLevel : Nat)
    (hn : 2 ≤ ngram) (hl : ∀ a b c, lvl a b c ≤ maxLevel) (pws : List Str) (target : Nat) :
    let t := trainTTables lvl alphabetSize ngram minLength maxLength maxLevel pws
    (∀ s, (loadScorer t.ipLines t.cpLines t.lnLines).parse s = t.trainerLevel s) ∧
    ∃ tb, t.loadTables = some tb ∧
      ∀ s0, tb.start = some s0 →
        ∃ N, (∀ fuel, N ≤ fuel → tb.enumFrom target fuel s0 = tb.enumFrom target N s0) ∧
          (tb.enumFrom target N s0).Nodup ∧
          ∀ s : Str, s ∈ tb.enumFrom target N s0 ↔ t.trainerLevel s = some target := by
  intro t
  have hwf := C11_trained_tables_wf lvl alphabetSize ngram minLength maxLength maxLevel hn hl pws
  refine ⟨fun s => C11_scorer_from_files t hwf s, ?_⟩
  obtain ⟨tb, h1, _, h3⟩ := C11_guesser_from_files t hwf target
  exact ⟨tb, h1, h3⟩

/-- **the clamp of `_calc_level`, regenerated from the source**: the statements after the one that takes the floor of the logarithm
are translated, whatever their shape (`if` / `elif` / early `return`s), into `Generated.OmenFacts.calcLevelClamp`; with `max_level` at
its default 10 that function is the model's `clampLevel` - so whatever the logarithm and the floor return (they do not reduce in the
kernel), the level is within `0..10` (`lvlOf raw 10`) -/
theorem C11_calc_level_clamps :
    Generated.OmenFacts.calcLevelMaxDefault = "10" ∧
    (∀ level : Int, Generated.OmenFacts.calcLevelClamp level 10 = (clampLevel level 10 : Int)) ∧
    ∀ (raw : Nat → Nat → Nat → Int) (a b c : Nat), lvlOf raw 10 a b c ≤ 10 := by
  -- the two clamps agree for every bound `n`, branch by branch
  have h (n : Nat) (level : Int) : Generated.OmenFacts.calcLevelClamp level n = (clampLevel level n : Int) := by
    unfold Generated.OmenFacts.calcLevelClamp clampLevel
    by_cases h1 : level > n
    · rw [if_pos h1, if_pos h1]
    · rw [if_neg h1, if_neg h1]
      by_cases h2 : level < 0
      · rw [if_pos h2, if_pos h2]; rfl
      · rw [if_neg h2, if_neg h2, Int.toNat_of_nonneg (Int.not_lt.1 h2)]
  exact ⟨rfl, h 10, fun raw => lvlOf_le raw 10⟩

/-- `C11_trained` for **every** value the logarithm could return: no hypothesis besides the n-gram size ≥ 2 and, for the
generator clause, `tb.start = some s0` -/
theorem C11_trained_any_smoothing (raw : Nat → Nat → Nat → Int) (alphabetSize ngram minLength maxLength : Nat)
    (hn : 2 ≤ ngram) (pws : List Str) (target : Nat) :
    let t := trainTTables (lvlOf raw 10) alphabetSize ngram minLength maxLength 10 pws
    (∀ s, (loadScorer t.ipLines t.cpLines t.lnLines).parse s = t.trainerLevel s) ∧
    ∃ tb, t.loadTables = some tb ∧
      ∀ s0, tb.start = some s0 →
        ∃ N, (∀ fuel, N ≤ fuel → tb.enumFrom target fuel s0 = tb.enumFrom target N s0) ∧
          (tb.enumFrom target N s0).Nodup ∧
          ∀ s : Str, s ∈ tb.enumFrom target N s0 ↔ t.trainerLevel s = some target :=
  C11_trained (lvlOf raw 10) alphabetSize ngram minLength maxLength 10 hn (lvlOf_le raw 10) pws target

/-- non-vacuity (kernel-evaluated; the alphabet is given, its sorting does not reduce in the kernel): three passwords over `a`, `b`,
bigrams, a level function that is not constant -/
example :
    let t := (countTables ['a', 'b'] 2 1 4 [['a', 'b', 'a'], ['a', 'b'], ['b', 'b', 'a']]).toTTables
      (fun c tot _ => if 2 * c ≥ tot then 0 else 1) 2 3
    t.entries.map (·.key) = [['a'], ['b']] ∧ t.trainerLevel ['a', 'b', 'a'] = some 0 ∧ t.trainerLevel ['b', 'b', 'a'] = some 2 ∧ t.lns = [1, 1, 0, 1] := by
  decide +kernel

/-- **nothing outlives a call except the objects a caller holds** (regenerated from the four library packages): no module-level or
class-level container that changes, no cache decorator or cache call, no computed default argument and no `global` statement anywhere in
`lib_guesser`, `lib_trainer`, `lib_scorer`, `lib_princeling` - an answer cannot depend on what another object, an earlier ruleset in the
same process or the other thread did -/
theorem C11_no_process_wide_state : Generated.ProcessState.processWideState = [] :=
  SourceTables.no_process_wide_state

end Pcfg.C11
