import PcfgVerif.Properties.SourceTables.CliOptions
import PcfgVerif.Properties.EditCore
import PcfgVerif.Generated.CliOptions
import PcfgVerif.Generated.EditFs
import PcfgVerif.Model.ExpandSpec
/-!
# C20 — edit_rules only removes base structures, and only those that fail the filter

`gText rows` is a grammar.txt whose lines are `labels<TAB>probability`.  Each of the three filters is a plain
`List.filter` on the rows (`C20_length_filter`, `C20_terminal_filter`, `C20_regex_filter`, with `C20_labels_intact` for
the tokens they see): survivors keep their order and are byte-identical (structure and probability text), nothing else is
produced.  Their composition `editRules` is what the driver runs against the real program; no theorem is stated of it.
"No other file touched" and `--copy`: the table of file-system calls (`C20_only_grammar_written`) and the harness
(directory hashes); the options reach the filters as typed (`C20_cli_passes_filters`).

The length claim: every structure gets a pair (shortest, longest) of lengths (`totalLen`).  Labels A/D/O/K state the
length of their values and Y is 4, so they add the same number to both; an `X` label contributes its number times the
shortest resp. the longest context value of the ruleset (`C20_label_length`).  A structure is kept iff it is the Markov
one or its shortest reaches the minimum and its longest stays within the maximum, if one is given (`C20_length_bounds`, and
`C20_only_failing_removed` for the negation).  A guess whose value lengths are ones the labels admit has a length between
the two totals, so within the bounds if the structure is kept and not Markov (`C20_guess_lengths`).  That the values
behind a label have a length the label admits is the part left to the harness; `C20_case_expansion_witness` is where it
fails.
-/
namespace Pcfg.C20

/-- a structure is never rewritten: the tokens `re.findall` finds in a well-formed line are its labels, whatever their
number of digits -/
theorem C20_labels_intact (labels : List CPs) (prob : CPs) (hl : ∀ t ∈ labels, IsLabel t)
    (hp : IsProbText prob) : tokenize (gLine labels prob) = labels := by
  rw [tokenize, gLine, List.append_assoc, List.singleton_append]
  exact tokGo_labels_tab labels prob hl (fun c hc => (hp.1 c hc).1) none

/-- min_length and max_length: exactly the rows whose (shortest, longest) guess length passes, in
order, unchanged; `ctx` = shortest and longest context value of the ruleset -/
theorem C20_length_filter (ctx : Nat × Nat) (mn mx : Nat) (rows : List (List CPs × CPs))
    (h : ∀ r ∈ rows, r.1 ≠ [] ∧ (∀ t ∈ r.1, IsLabel t) ∧ IsProbText r.2 ∧ (totalLen ctx r.1).isSome) :
    (editLengthLines ctx mn mx (textLines (gText rows))).map List.flatten =
      some (gText (rows.filter fun r =>
        Generated.EditRules.keepLen ((totalLen ctx r.1).getD (0, 0)).1 ((totalLen ctx r.1).getD (0, 0)).2 mn mx)) := by
  refine filter_lines _ _ rows (fun r hr => ⟨(h r hr).2.1, (h r hr).2.2.1⟩) rfl
    (fun r hr rest more hmore => ?_)
  obtain ⟨hne, hl, hp, hs⟩ := h r hr
  obtain ⟨total, htot⟩ := Option.isSome_iff_exists.mp hs
  -- the line is not empty, so the first test of the loop fails; `if_neg` finds that test by unification, where
  -- `rw [editLengthLines]` would have Lean prove the unfolding equation of the whole loop first, which is dear
  refine (if_neg (ne_true_of_eq_false (gLine_isEmpty r.1 r.2))).trans ?_
  simp only [probField_gLine _ _ hl hp, C20_labels_intact _ _ hl hp, List.isEmpty_eq_false_iff.mpr hne, htot, hmore,
    Option.getD_some, Bool.false_eq_true, if_false]
  -- `rebuild r.1 r.2`, the line written back, unfolds to `gLine r.1 r.2 ++ [0x0a]`
  exact (apply_ite some _ _ _).symm

/-- the theorem on the four-line file of `EditCore` (min 1000, no max) -/
example : (editLengthLines (2, 5) 1000 0 (textLines (gText exRows))).map List.flatten =
    some (gText (exRows.filter fun r =>
      Generated.EditRules.keepLen ((totalLen (2, 5) r.1).getD (0, 0)).1 ((totalLen (2, 5) r.1).getD (0, 0)).2 1000 0)) :=
  C20_length_filter (2, 5) 1000 0 exRows exRows_ok

/-- `--terminal_set`: exactly the rows all of whose labels start with an allowed letter, in order, unchanged -/
theorem C20_terminal_filter (allowed : List Nat) (rows : List (List CPs × CPs))
    (h : ∀ r ∈ rows, r.1 ≠ [] ∧ (∀ t ∈ r.1, IsLabel t) ∧ IsProbText r.2) :
    (editTerminalLines allowed (textLines (gText rows))).map List.flatten =
      some (gText (rows.filter fun r => r.1.all fun t => allowed.contains (t.headD 0))) := by
  refine filter_lines _ _ rows (fun r hr => (h r hr).2) rfl
    (fun r hr rest more hmore => ?_)
  obtain ⟨hne, hl, hp⟩ := h r hr
  refine (if_neg (ne_true_of_eq_false (gLine_isEmpty r.1 r.2))).trans ?_
  simp only [probField_gLine _ _ hl hp, C20_labels_intact _ _ hl hp, List.isEmpty_eq_false_iff.mpr hne, hmore,
    Bool.false_eq_true, if_false]
  exact (apply_ite some _ _ _).symm

/-- `--regex`: exactly the rows whose structure string passes, in order, unchanged; the user's regexes are an abstract
predicate on the structure string (that the rows have labels, `r.1 ≠ []`, is not needed) -/
theorem C20_regex_filter (ok : CPs → Bool) (rows : List (List CPs × CPs))
    (h : ∀ r ∈ rows, r.1 ≠ [] ∧ (∀ t ∈ r.1, IsLabel t) ∧ IsProbText r.2) :
    (checkRegexLines ok (textLines (gText rows))).map List.flatten =
      some (gText (rows.filter fun r => ok r.1.flatten)) := by
  refine filter_lines _ _ rows (fun r hr => (h r hr).2) rfl
    (fun r hr rest more hmore => ?_)
  obtain ⟨_, hl, hp⟩ := h r hr
  refine (if_neg (ne_true_of_eq_false (gLine_isEmpty r.1 r.2))).trans ?_
  simp only [probField_gLine _ _ hl hp, structField_gLine _ _ hl hp, hmore]
  exact (apply_ite some _ _ _).symm

/-- a kept structure: the Markov structure (longest 0), or min ≤ shortest and (no max or longest ≤ max) -/
theorem C20_length_bounds (lo hi mn mx : Nat) :
    Generated.EditRules.keepLen lo hi mn mx = true ↔
      (hi = 0 ∨ (mn ≤ lo ∧ (mx = 0 ∨ hi ≤ mx))) := by
  simp only [Generated.EditRules.keepLen, CmpOp.nat, Bool.if_true_left, Bool.if_false_right, Bool.and_true,
    Bool.or_eq_true, Bool.and_eq_true, beq_iff_eq, decide_eq_true_eq]
  -- the first test: `hi ≤ mx` adds nothing to `hi = 0`; the other two share `mn ≤ lo`
  rw [and_iff_left_of_imp (fun h : hi = 0 => h ▸ Nat.zero_le mx), ← and_or_left]

set_option linter.unusedVariables false in
/-- the (shortest, longest) length attributed to a label: its number for A, D, O, K; 4 for Y; for X
the number times the shortest / longest context value; 0 otherwise (M); `hds` is not needed -/
theorem C20_label_length (ctx : Nat × Nat) (c : Nat) (ds : CPs) (hc : isUpperAZ c = true) (hds : ds ≠ []) :
    tokenLen ctx (c :: ds) =
      if c = 0x59 then some (4, 4)
      else if c = 0x41 ∨ c = 0x44 ∨ c = 0x4f ∨ c = 0x4b then (digitsVal ds).map fun n => (n, n)
      else if c = 0x58 then (digitsVal ds).map fun n => (n * ctx.1, n * ctx.2)
      else some (0, 0) := by
  have h : c < 0xd800 := Nat.lt_of_le_of_lt (of_decide_eq_true hc).2 (by decide)
  open Generated.EditRules in
  simp only [tokenLen, isA, isD, isY, isO, isK, isX, CmpOp.chr, ofNat_beq c h, gen_yearLenLo, gen_yearLenHi,
    gen_ctxLo, gen_ctxHi, decide_eq_true_eq, Char.reduceToNat]
  -- both sides decide between the same six letters, which exclude each other
  by_cases hA : c = 0x41; · subst hA; rfl
  by_cases hD : c = 0x44; · subst hD; rfl
  by_cases hY : c = 0x59; · subst hY; rfl
  by_cases hO : c = 0x4f; · subst hO; rfl
  by_cases hK : c = 0x4b; · subst hK; rfl
  simp [hA, hD, hY, hO, hK]

/-- a guess of a kept non-Markov structure, given as the list `ls` of the lengths of its values, each a length its label
admits (`LabelLenOK`), has a length within the requested bounds -/
theorem C20_guess_lengths (ctx : Nat × Nat) (toks : List CPs) (ls : List Nat) (mn mx lo hi : Nat)
    (hlen : ls.length = toks.length)
    (h : ∀ i (hi : i < toks.length), LabelLenOK ctx toks[i] (ls[i]'(by omega)))
    (ht : totalLen ctx toks = some (lo, hi)) (hnm : hi ≠ 0)
    (hk : Generated.EditRules.keepLen lo hi mn mx = true) :
    mn ≤ ls.sum ∧ (mx = 0 ∨ ls.sum ≤ mx) := by
  obtain ⟨_, _, ht', hlo, hhi⟩ := totalLen_bounds ctx toks ls hlen h
  cases ht.symm.trans ht'
  obtain ⟨hmn, hmx⟩ := ((C20_length_bounds lo hi mn mx).mp hk).resolve_left hnm
  exact ⟨Nat.le_trans hmn hlo, hmx.imp_right (Nat.le_trans hhi)⟩

/-- the two totals of a removed structure: the longest is not 0 (it is not the Markov structure), and the shortest is
below the minimum or the longest above the given maximum -/
theorem C20_only_failing_removed (lo hi mn mx : Nat)
    (hk : Generated.EditRules.keepLen lo hi mn mx = false) :
    hi ≠ 0 ∧ (lo < mn ∨ (mx ≠ 0 ∧ mx < hi)) := by
  have h := mt (C20_length_bounds lo hi mn mx).mpr (Bool.eq_false_iff.mp hk)
  rwa [not_or, Decidable.not_and_iff_not_or_not, not_or, Nat.not_le, Nat.not_le] at h

/-- where the label arithmetic and the real length part company (the tool's recorded known finding, one evaluation of
`productSpec`): a letter whose upper-casing is longer than one character under a `U` mask.  The value `aß` stored under
`A2` with the mask `LU` is emitted as `aSS` — three characters for a label that says two, so 3 is not a length
`LabelLenOK` (the premise of `C20_guess_lengths`) admits for `A2`. -/
theorem C20_case_expansion_witness :
    productSpec (fun c => if c = 'ß' then ['S', 'S'] else [c.toUpper])
      [("A2", [[['a', 'ß']]]), ("C2", [[['L', 'U']]])] [] [("A2", 0), ("C2", 0)] = [['a', 'S', 'S']] := by
  decide +kernel

/-- **only `Grammar/grammar.txt` is ever written** (re-proved against the current source of `edit_rules.py` on every run): every
call that can change the file system is a `shutil.copytree` (the `--copy` duplicate) or the one write-open, whose file name is
`os.path.join(…, 'Grammar', 'grammar.txt')`; with `--copy` the ruleset being edited is re-bound to the copy before that name is
computed, so the source ruleset is never opened for writing -/
theorem C20_only_grammar_written :
    (Generated.EditFs.writes.all fun w =>
      w == ("shutil.copytree", "") || w == ("open-write", "Grammar/grammar.txt")) = true ∧
    (Generated.EditFs.writes.filter fun w => w.1 == "open-write").length = 1 ∧
    Generated.EditFs.retargetsToCopy = true := by decide +kernel

/-- **the filters `edit_rules` applies are the ones typed** (option glue of `edit_rules.py`, regenerated from the source): the
bounds are `int()` of the typed values, the terminal set is the comma-separated list upper-cased (`False` if none is typed), and
`--regex` is split at commas into a list of expressions, each passed on as typed; the six options are all there are -/
theorem C20_cli_passes_filters :
    Generated.CliOptions.editAssign =
      [("parse_command_line", "rule", "args.rule"),
       ("parse_command_line", "copy", "args.copy"),
       ("parse_command_line", "min_length", "int(args.min_length)"),
       ("parse_command_line", "max_length", "int(args.max_length)"),
       ("parse_command_line", "terminal_set", "[x.upper() for x in args.terminal_set.split(',')]"),
       ("parse_command_line", "terminal_set", "False"),
       ("parse_command_line", "regex", "[x for x in args.regex.split(',')]")] ∧
    Generated.CliOptions.editOptions.map (·.1) = ["--rule", "--copy", "--min_length", "--max_length", "--terminal_set", "--regex"] :=
  ⟨rfl, rfl⟩

/-- **every tool works on the same `Rules` folder** (regenerated from the five programs): the trainer, the guesser, `edit_rules.py`,
`prince_ling.py` and the scorer each build the ruleset directory from one and the same expression for their own location - so a ruleset
one tool wrote or edited under a name is the ruleset another tool reads under that name, from whatever directory or through whatever link
either was started -/
theorem C20_tools_share_the_rules_folder :
    (["trainer.py", "pcfg_guesser.py", "edit_rules.py", "prince_ling.py", "password_scorer.py"].all
      fun p => Generated.CliOptions.rulesDirRoots.any (·.1 == p)) = true ∧
    ∀ a ∈ Generated.CliOptions.rulesDirRoots, ∀ b ∈ Generated.CliOptions.rulesDirRoots, a.2 = b.2 :=
  SourceTables.tools_share_the_rules_folder

end Pcfg.C20
