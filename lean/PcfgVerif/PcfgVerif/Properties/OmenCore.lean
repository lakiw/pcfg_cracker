import PcfgVerif.Lemmas.OmenLevel
/-!
# C10: the walk of one block, the enumeration of one level, and worked instances

`nextTree_succ` (one (length, initial n-gram) pair) and `level_exact` (one level).  `nextTree_succ`, `fill_eq_head` and
`C10_tree_walk` need the hypothesis `hne` that no (prefix, level) entry has an empty character list
(`Tables.WF.cp_levels` provides it): `_fill_out_parse_tree` of length 1 returns index 0 of a level without looking at the
character list, and the counterexamples below are evaluated.  `exT` is a well-formed rule set on which the hypotheses of
`level_exact` hold.
-/
namespace Omen

/-- `GuessStructure.next_guess` walks the specification list: from the i-th tree it produces the
(i+1)-th, and `none` after the last (`hcp` is not needed: `nextTree_walks`) -/
theorem nextTree_succ (m : Model) (_hcp : ∀ e ∈ m.cp, ∀ p ∈ e.2, p.1 ≤ m.maxLevel)
    (hne : ∀ e ∈ m.cp, ∀ p ∈ e.2, p.2 ≠ [])
    (len : Nat) (ip : Str) (target : Nat) (i : Nat)
    (t : List Item) (ht : (m.allTrees len ip target)[i]? = some t) :
    m.nextTree t = (m.allTrees len ip target)[i + 1]? :=
  (nextTree_walks m hne len ip target).getElem? ht

set_option linter.unusedVariables false in
/-- C10: started from the beginning, the generator emits exactly the strings of level `target`,
each once, and then reports exhaustion (the list does not grow with more fuel).
`hpos` is not needed: `level_settles` -/
theorem level_exact (t : Tables) (ipLen : Nat) (hpos : 0 < ipLen) (hwf : t.WF ipLen) (target : Nat)
    (s0 : CState) (hs : t.start = some s0) :
    ∃ N, (∀ fuel, N ≤ fuel → t.enumFrom target fuel s0 = t.enumFrom target N s0) ∧
      (t.enumFrom target N s0).Nodup ∧
      ∀ s : Str, s ∈ t.enumFrom target N s0 ↔ t.levelOf ipLen s = some target := by
  obtain ⟨E, N, h, h2, h3⟩ := level_settles t ipLen hwf target s0 hs
  obtain ⟨h1, rfl⟩ := settles h
  exact ⟨N, h1, h2, h3⟩

section Counterexamples

/-- a level with an empty character list -/
def cex1 : Model := { cp := [(['a'], [(0, [])])] }

example : ∀ e ∈ cex1.cp, ∀ p ∈ e.2, p.1 ≤ cex1.maxLevel := by decide +kernel

example : cex1.fill 1 ['a'] 0 ≠ (cex1.allTrees 1 ['a'] 0).head? := by decide +kernel

example : (cex1.allTrees 1 ['a'] 0).length < 5 ∧
    cex1.enumFrom 5 (cex1.fill 1 ['a'] 0) ≠ cex1.allTrees 1 ['a'] 0 := by decide +kernel

def cex2 : Model := { cp := [(['a'], [(1, ['b', 'a']), (0, [])]), (['b'], [(0, ['a'])])] }

example : ∀ e ∈ cex2.cp, ∀ p ∈ e.2, p.1 ≤ cex2.maxLevel := by decide +kernel

example : (cex2.allTrees 2 ['a'] 1)[0]? = some [⟨['a'], 1, 0⟩, ⟨['b'], 0, 0⟩] ∧
    cex2.nextTree [⟨['a'], 1, 0⟩, ⟨['b'], 0, 0⟩] ≠ (cex2.allTrees 2 ['a'] 1)[0 + 1]? := by decide +kernel

end Counterexamples

section NonVacuity

/-- bigram rule set: prefixes `a`, `b`; one more letter (length level 0) or two (level 1) -/
def exT : Tables :=
  { m := { maxLevel := 2, cp := [(['a'], [(0, ['a']), (1, ['b'])]), (['b'], [(1, ['a'])])] }
    ipTbl := [[['a']], [['b']], []]
    lnTbl := [[1], [2], []] }

theorem exT_wf : exT.WF 1 := by
  constructor <;> decide +kernel

theorem exT_start : exT.start = some ⟨⟨0, 0, 0, 0⟩, []⟩ := rfl

theorem exT_level_one : exT.enumLevel 1 10 = some [['a', 'b'], ['a', 'a', 'a']] := by decide +kernel

example : exT.enumLevel 1 10 = some [['a', 'b'], ['a', 'a', 'a']] := exT_level_one
example : exT.levelOf 1 ['a', 'b'] = some 1 ∧ exT.levelOf 1 ['a', 'a', 'a'] = some 1 := by decide +kernel
example : exT.enumLevel 3 20 = some [['a', 'b', 'a'], ['b', 'a', 'a']] := by decide +kernel

example (target : Nat) :
    ∃ N, (∀ fuel, N ≤ fuel → exT.enumFrom target fuel ⟨⟨0, 0, 0, 0⟩, []⟩ =
        exT.enumFrom target N ⟨⟨0, 0, 0, 0⟩, []⟩) ∧
      (exT.enumFrom target N ⟨⟨0, 0, 0, 0⟩, []⟩).Nodup ∧
      ∀ s : Str, s ∈ exT.enumFrom target N ⟨⟨0, 0, 0, 0⟩, []⟩ ↔ exT.levelOf 1 s = some target :=
  level_exact exT 1 Nat.one_pos exT_wf target _ exT_start

end NonVacuity

end Omen
