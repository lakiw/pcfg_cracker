import PcfgVerif.Properties.ScoreExample
/-!
# C13 — the point the domain clause excludes (recorded known finding)

`CaseInvAll` is not a technicality: for a letter that is neither upper nor lower case and whose
lower-casing differs from it — the title-case digraph U+01C5 `ǅ`, lower-cased U+01C6 `ǆ` — the trainer
records the mask letter `L`, stores the lower-cased word, and the scorer, which repeats the trainer's
parse, finds every factor in the ruleset.  The score is non-zero, yet the guesser's only pre-terminal of
that probability emits `ǆabc1`, not `ǅabc1`.  The harness replays the same strings on the real trainer,
scorer and guesser.
-/
namespace Pcfg.C13Witness
open Pcfg.Detect Pcfg.ScoreB.Ex

attribute [local instance] decParsed

/-- CPython's view of the characters involved: U+01C5 is a letter, not upper case, and lower-cases to U+01C6 -/
def titleU : UEnv where
  isAlpha c := c == 453 || c == 454 || (decide (97 ≤ c) && decide (c ≤ 122)) || (decide (65 ≤ c) && decide (c ≤ 90))
  isDigit c := decide (48 ≤ c) && decide (c ≤ 57)
  isUpper c := decide (65 ≤ c) && decide (c ≤ 90)
  lowerS s := s.map fun c => if c = 453 then 454 else if 65 ≤ c ∧ c ≤ 90 then c + 32 else c
  lowerPy s := s.map fun c => if c = 453 then 454 else if 65 ≤ c ∧ c ≤ 90 then c + 32 else c

/-- `ǅabc1` -/
def pw : CPs := [453, 97, 98, 99, 49]

/-- the ruleset a training on `ǆabc1` / `ǅabc1` leaves: the word is stored lower-cased, the mask is `LLLL` -/
def g : ScoreG Nat :=
  [("A4", [([454, 97, 98, 99], 2)]), ("C4", [([76, 76, 76, 76], 3)]), ("D1", [([49], 5)]),
   ("B", [(cpsOfString "A4D1", 7)])]

def E : EGrammar := [("A4", [[[Char.ofNat 454, 'a', 'b', 'c']]]), ("C4", [[['L', 'L', 'L', 'L']]]), ("D1", [[['1']]])]

def up (c : Char) : List Char := if c = Char.ofNat 454 then [Char.ofNat 452] else [c.toUpper]

theorem parse_pw : parse titleU {} [] pw =
    { sections := [([453, 97, 98, 99], some "A4"), ([49], some "D1")], walks := [], emails := [], websites := [],
      years := [], contexts := [], alphas := [[454, 97, 98, 99]], masks := [[76, 76, 76, 76]], digits := [[49]],
      others := [], supported := true, structure' := "A4D1" } := by decide +kernel

/-- the scorer's answer is not zero … -/
theorem score_nonzero (gt : Nat → Nat → Bool) (limit : Nat) (omenOk : Bool) :
    (score (· * ·) gt 1 0 limit g (parse titleU {} [] pw) omenOk).prob = 210 := by
  rw [parse_pw]
  rfl

/-- … but the pre-terminal those factors belong to emits the lower-cased string only -/
theorem guesser_emits_other :
    productSpec up E [] [("A4", 0), ("C4", 0), ("D1", 0)] = [[Char.ofNat 454, 'a', 'b', 'c', '1']] ∧
    toStr pw ∉ productSpec up E [] [("A4", 0), ("C4", 0), ("D1", 0)] := by
  decide +kernel

/-- and the domain clause is exactly what fails -/
theorem not_caseInv : ¬ CaseInvAll titleU up pw := by
  intro h
  have := h 0 5 0 453 454 (by decide) (by decide)
  revert this
  decide

end Pcfg.C13Witness
