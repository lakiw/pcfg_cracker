import PcfgVerif.Lemmas.ProbsLemmas
/-! Non-vacuity of the C06 theorems: a concrete counter with a tie
(`decide +kernel` only evaluates closed `Rat` arithmetic in the kernel; no extra axioms). -/
namespace Pcfg

/-- `b` first (5), the tie `a`/`c` (3 each) keeps insertion order, `d` last -/
theorem mostCommon_example : mostCommon ratOps [("a", (3 : Rat)), ("b", 5), ("c", 3), ("d", 1)]
    = [("b", 5), ("a", 3), ("c", 3), ("d", 1)] := by
  have h1 : ¬ (5 : Rat) ≤ 3 := by decide +kernel
  have h2 : (1 : Rat) ≤ 3 := by decide +kernel
  have h3 : (3 : Rat) ≤ 5 := by decide +kernel
  simp [mostCommon, List.mergeSort, List.MergeSort.Internal.splitInTwo, ratOps, h1, h2, h3]

theorem totalCount_example : totalCount ratOps [("a", (3 : Rat)), ("b", 5), ("c", 3), ("d", 1)] = 12 := by
  decide +kernel

theorem calcProbs_example : calcProbs ratOps [("a", (3 : Rat)), ("b", 5), ("c", 3), ("d", 1)]
    = [("b", 5/12), ("a", 3/12), ("c", 3/12), ("d", 1/12)] := by
  simp only [calcProbs, mostCommon_example, totalCount_example]
  rfl

example : ((calcProbs ratOps [("a", (3 : Rat)), ("b", 5), ("c", 3), ("d", 1)]).map (·.2)).sum = 1 := by
  rw [calcProbs_example]; decide +kernel

example : ((calcProbs ratOps [("a", (3 : Rat)), ("b", 5), ("c", 3), ("d", 1)]).map (·.2)).sum = 1 :=
  calcProbs_sum_one _ (by rw [totalCount_example]; decide +kernel)

/-- stability on the example: the items with count 3 come out as `a`, `c` -/
example : (mostCommon ratOps [("a", (3 : Rat)), ("b", 5), ("c", 3), ("d", 1)]).filter (fun it => decide (it.2 = 3))
    = [("a", 3), ("c", 3)] := by
  rw [mostCommon_example]; decide +kernel

/-- Markov share on numbers: N = 12, coverage 3/4 → pseudo-count 4, share 1/4 -/
example : ((12 : Rat) / (3/4) - 12) = 4 ∧
    ((12 : Rat) / (3/4) - 12) / (12 + ((12 : Rat) / (3/4) - 12)) = 1 - 3/4 := by
  decide +kernel

end Pcfg
