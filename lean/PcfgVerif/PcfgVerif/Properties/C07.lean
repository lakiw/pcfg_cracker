import PcfgVerif.Properties.LoaderCore
import PcfgVerif.Generated.WriterLoops
import PcfgVerif.Lemmas.TrainedFolder
import PcfgVerif.Lemmas.TrainedCounts
import PcfgVerif.Lemmas.TrainedWF
import PcfgVerif.Generated.RuleDir
import PcfgVerif.Lemmas.OmenSim
import PcfgVerif.Properties.OmenTrainCore
import PcfgVerif.Lemmas.OmenText
/-!
# C07 — a saved ruleset means the same thing to every tool that loads it

`writeFile` is the trainer's writer (`value<TAB>str(prob)<NL>` per item); `loadFromFile` the guesser's
loader, `scorerLoad` the scorer's.  The table of code points `check_valid` rejects is generated from
its source; the table of line boundaries (`pyLineSeps`) and of whitespace (`pySpaces`) is compared
with the running interpreter over all code points on every run.  Codec internals are runtime.

One list file: what `check_valid` lets through (`C07_separators_rejected`, `C07_accepted_is_clean`), the round trips
(`C07_guesser_roundtrip`, `C07_scorer_roundtrip`, `C07_lines`) and that a sorted file loads into a well-formed column
(`C07_sorted_file_loads_wf`, `C07_trained_column_wf`).  Folders and `config.ini`: `C07_folder_is_filename_list`,
`C07_config_sources`, `C07_last_listed_file_wins`, `C07_trained_folder_loads`.  Then the OMEN files.
-/
namespace Pcfg.C07
variable {P : Type}

/-- every line boundary of `str.splitlines`, the TAB and the empty string are rejected by `check_valid` -/
theorem C07_separators_rejected :
    (∀ c ∈ pyLineSeps, Generated.CheckValid.rejected.contains c = true) ∧
    Generated.CheckValid.rejected.contains 0x09 = true ∧ Generated.CheckValid.rejectEmpty = true := by
  decide +kernel

/-- no password accepted for training can put a value on disk that the line-oriented format cannot
return unchanged: a password that passes `check_valid` and the reader's surrogate test is non-empty and
free of line boundaries and TABs -/
theorem C07_accepted_is_clean (v : CPs) (h : checkValid v = true) (hs : ∀ c ∈ v, isSurrogate c = false) :
    CleanValue v ∧ v ≠ [] := by
  unfold checkValid at h
  simp only [Bool.and_eq_true, Bool.not_eq_true', List.all_eq_true] at h
  obtain ⟨h1, h2⟩ := h
  obtain ⟨hsep, htab, hempty⟩ := C07_separators_rejected
  refine ⟨fun c hc => ⟨?_, fun h9 => ?_, hs c hc⟩, fun hv => ?_⟩
  · cases hl : isLineSep c with
    | false => rfl
    | true => exact absurd (h2 c hc) (by rw [hsep c (by simpa [isLineSep] using hl)]; decide)
  · exact absurd (h2 c hc) (by rw [h9, htab]; decide)
  · rw [hv, hempty] at h1; cases h1

set_option linter.unusedVariables false in
/-- the guesser's loader reads back every written value, in order, each in a group carrying the
probability written next to it; groups are the maximal runs of equal probability; the error-recovery
branch is never taken (leading / trailing spaces of a value survive: `rstrip` only ever removes
characters after the probability field).  Of the comparison only reflexivity is used (`heq_symm`, `heq_trans` are not). -/
theorem C07_guesser_roundtrip (parseP : CPs → Option P) (eqv : P → P → Bool) (neg1 : P)
    (heq_refl : ∀ a, eqv a a = true)
    (heq_symm : ∀ a b, eqv a b = true → eqv b a = true)
    (heq_trans : ∀ a b c, eqv a b = true → eqv b c = true → eqv a c = true)
    (items : List (CPs × CPs))
    (hc : ∀ it ∈ items, CleanValue it.1 ∧ CleanProb it.2)
    (hp : ∀ it ∈ items, ∃ p, parseP it.2 = some p ∧ eqv p neg1 = false) :
    ∃ gs, loadFromFile parseP eqv neg1 (writeFile items) = some gs ∧
      gs.flatMap (·.values) = items.map (·.1) ∧
      (∀ g ∈ gs, g.values ≠ []) ∧
      (∀ (i : Nat) (a : CPs × P) (it : CPs × CPs),
        (gs.flatMap fun g => g.values.map fun v => (v, g.prob))[i]? = some a → items[i]? = some it →
          a.1 = it.1 ∧ ∃ p, parseP it.2 = some p ∧ eqv p a.2 = true) ∧
      (∀ (i : Nat), ∀ g1 g2, gs[i]? = some g1 → gs[i + 1]? = some g2 → eqv g2.prob g1.prob = false) := by
  have hp' : ∀ it ∈ items, (parseP it.2).isSome := fun it hit => by obtain ⟨p, hq, _⟩ := hp it hit; simp [hq]
  refine ⟨_, loadFromFile_eq_groups parseP eqv neg1 items hc hp, ?_, groups_ne eqv _, ?_, groups_adj eqv _⟩
  · rw [groups_values, parsed_map_fst parseP items hp']
  · intro i a it h1 h2
    obtain ⟨p, hq, hl⟩ := parsed_getElem? parseP items hp' i it h2
    have := groups_rel eqv heq_refl _ (a, (it.1, p)) (List.mem_of_getElem? (List.getElem?_zip_eq_some.mpr ⟨h1, hl⟩))
    exact ⟨this.1, p, hq, this.2⟩

/-- the scorer's loader reads back exactly the written (value, probability) pairs -/
theorem C07_scorer_roundtrip (parseP : CPs → Option P) (items : List (CPs × CPs))
    (hc : ∀ it ∈ items, CleanValue it.1 ∧ CleanProb it.2)
    (hp : ∀ it ∈ items, (parseP it.2).isSome) :
    scorerLoad parseP (writeFile items) =
      some (items.filterMap fun it => (parseP it.2).map fun p => (it.1, p)) :=
  scorerLoad_writeFile parseP items hc hp

/-- the reader's view of a written file is the written lines (no value can split a line) -/
theorem C07_lines (items : List (CPs × CPs)) (hc : ∀ it ∈ items, CleanValue it.1 ∧ CleanProb it.2) :
    codecLines (writeFile items) = items.map fun it => writeLine it.1 it.2 :=
  codecLines_writeFile items hc

/-- the general theorem applies to the example of `LoaderCore` (all hypotheses hold) -/
example := C07_guesser_roundtrip exParse exEqv (-1) (by intro a; simp [exEqv])
  (by intro a b; simp [exEqv]; exact Eq.symm) (by intro a b c; simp [exEqv]; exact Eq.trans)
  exItems exItems_clean exItems_parse

/-- non-vacuity: a value with a trailing space, two values sharing a probability -/
example : loadFromFile Pcfg.exParse Pcfg.exEqv (-1) (writeFile Pcfg.exItems) =
    some [⟨[[97, 98, 32], [99]], 50⟩, ⟨[[100]], 25⟩] := exItems_loads

set_option linter.unusedVariables false in
/-- a clean list file whose probabilities are non-increasing in file order is loaded into a non-empty list of
non-empty groups with non-increasing probabilities: the loader turns a sorted file into a column that is
well-formed in the sense of C01/C02/C08 (`WFStruct`).  A group carries the probability of the line that opened it, itself
and not one that compares equal to it, so `heq_refl` and `hcompat` are not used. -/
theorem C07_sorted_file_loads_wf (parseP : CPs → Option P) (eqv : P → P → Bool) (neg1 : P)
    (heq_refl : ∀ a, eqv a a = true)
    (R : P → P → Prop)
    (hcompat : ∀ p q a b, eqv p a = true → eqv q b = true → R p q → R a b)
    (items : List (CPs × CPs)) (hitems : items ≠ [])
    (hc : ∀ it ∈ items, CleanValue it.1 ∧ CleanProb it.2)
    (hp : ∀ it ∈ items, ∃ p, parseP it.2 = some p ∧ eqv p neg1 = false)
    (hs : (items.filterMap fun it => parseP it.2).Pairwise R) :
    ∃ gs, loadFromFile parseP eqv neg1 (writeFile items) = some gs ∧ gs ≠ [] ∧
      (∀ g ∈ gs, g.values ≠ []) ∧ (gs.map (·.prob)).Pairwise R := by
  have hne : parsed parseP items ≠ [] := fun h =>
    hitems (List.map_eq_nil_iff.mp (by
      rw [← parsed_map_fst parseP items fun it hit => by obtain ⟨p, hq, _⟩ := hp it hit; simp [hq], h]; rfl))
  refine ⟨_, loadFromFile_eq_groups parseP eqv neg1 items hc hp, groups_ne_nil eqv _ hne, groups_ne eqv _,
    List.Pairwise.sublist (groups_probs eqv _) ?_⟩
  rw [parsed, List.map_filterMap]
  simpa [Option.map_map, Function.comp_def] using hs

/-- **trainer → file → guesser, over binary64**: take any counter (values with natural counts, any order).
The trainer writes `calculate_probabilities` of it (`count / total` correctly rounded, most frequent first) with
the probability printed by `showP`; the guesser parses the text back with `parseP`.  If the counter is not empty, printing and
parsing round-trip (`float(repr(x)) == x`, trusted), the values and the probability text are clean (what `check_valid` admits) and
no written probability equals the loader's start value `neg1` (`hsent`), then the loaded
column is non-empty, every group is non-empty and the group probabilities are non-increasing for the binary64
order — the two facts `WFStruct sfAlg`, the hypothesis of C01/C02/C08, asks of every column. -/
theorem C07_trained_column_wf (parseP : CPs → Option Nat) (showP : Nat → CPs) (neg1 : Nat)
    (hround : ∀ p, parseP (showP p) = some p)
    (counter : List (CPs × Nat)) (hne : counter ≠ [])
    (hclean : ∀ it ∈ counter, CleanValue it.1) (hshow : ∀ p, CleanProb (showP p))
    (hsent : ∀ it ∈ calcProbs sfQ counter, it.2 ≠ neg1) :
    ∃ gs, loadFromFile parseP (fun a b => a == b) neg1
        (writeFile ((calcProbs sfQ counter).map fun it => (it.1, showP it.2))) = some gs ∧
      gs ≠ [] ∧ (∀ g ∈ gs, g.values ≠ []) ∧
      (gs.map (·.prob)).Pairwise (fun a b => sfAlg.le b a = true) :=
  trained_column_wf parseP showP neg1 hround counter hne hclean hshow hsent

/-- non-vacuity of `C07_trained_column_wf`: its hypotheses are satisfiable (unary probability text `1…1`, a counter with
a tie and a singleton; the sentinel is a value no quotient of these counts takes) -/
example : ∃ gs, loadFromFile (fun s => if s.all (· == 0x31) && !s.isEmpty then some (s.length - 1) else none)
      (fun a b => a == b) 7
      (writeFile ((calcProbs sfQ [([0x61], 2), ([0x62], 1), ([0x63], 2)]).map
        fun it => (it.1, List.replicate (it.2 + 1) 0x31))) = some gs ∧ gs ≠ [] ∧
      (∀ g ∈ gs, g.values ≠ []) ∧ (gs.map (·.prob)).Pairwise (fun a b => sfAlg.le b a = true) := by
  apply C07_trained_column_wf _ (fun p => List.replicate (p + 1) 0x31) 7
  · intro p; simp
  · simp
  · unfold CleanValue; decide
  · intro p
    refine ⟨by simp, fun c hc => ?_⟩
    cases (List.mem_replicate.mp hc).2
    decide
  · intro it hit
    obtain ⟨c, hc, hp⟩ := (calcProbs_mem sfQ _ it.1 it.2).mp hit
    have h : ∀ x ∈ [(([0x61] : CPs), 2), ([0x62], 1), ([0x63], 2)],
        sfQ.div x.2 (totalCount sfQ [(([0x61] : CPs), 2), ([0x62], 1), ([0x63], 2)]) ≠ 7 := by decide +kernel
    rw [hp]
    exact h (it.1, c) hc

/-- **the file lists of `config.ini` name exactly the files that exist** (model half): after
`save_indexed_counters` a folder holds exactly the names `create_filename_list` produces from the same counter, each once —
for every previous content of the folder (training over an existing ruleset), every counter and every way of printing keys -/
theorem C07_folder_is_filename_list {κ γ : Type} (name : κ → String) (suffix : String)
    (old : List (String × γ)) (counters : List (κ × γ)) :
    (∀ f, f ∈ (RuleDir.saveIndexed name suffix old counters).map (·.1) ↔
      f ∈ RuleDir.filenameList name suffix counters) ∧
    ((RuleDir.saveIndexed name suffix old counters).map (·.1)).Nodup := by
  have h := RuleDir.names_foldl_writeIn name suffix counters [] List.nodup_nil
  exact ⟨fun f => (h.1 f).trans (by simp), h.2⟩

/-- (source half, re-proved against the current source on every run): every section of `config.ini` whose file list is
computed takes it from the very counter that `save_pcfg_data` saves into that section's directory, with the same suffix; the
fixed lists (`1.txt` of Years / Context) are the writer's fixed keys; the start section lists `grammar.txt`, which the writer
saves (next to `raw_grammar.txt`, which no tool loads) -/
theorem C07_config_sources :
    Generated.RuleDir.configSuffix = Generated.RuleDir.writerSuffix ∧
    (Generated.RuleDir.configSources.all fun e =>
      e.1 == "Grammar" || Generated.RuleDir.writerSources.contains e) = true ∧
    (Generated.RuleDir.configSources.contains ("Grammar", "names:grammar.txt") &&
      Generated.RuleDir.writerSources.contains ("Grammar", "names:grammar.txt,raw_grammar.txt")) = true := by
  decide +kernel

/-- **`_load_from_multiple_files`: the file listed last under a variable is the one that counts** (`Model/LoadMulti.lean`, driven
against the real function on folders with several files per variable): after a successful load every variable named by a listed file
holds the content of the last such file, every other variable keeps what it held -/
theorem C07_last_listed_file_wins {β : Type} (read : String → Option β) (cat : String) (files : List String)
    (g g' : List (String × β)) (h : LoadMulti.loadMultiple read cat files g = some g') (k : String) :
    LoadMulti.lookup g' k = match files.reverse.find? (fun f => cat ++ LoadMulti.stem f == k) with
      | some f => read f
      | none => LoadMulti.lookup g k :=
  LoadMulti.loadMultiple_lookup read cat files g g' h k

/-- **a folder the trainer wrote loads into its variables**: the five length-indexed folders are written one file `<n>.txt` per length
of the counter dict (`save_indexed_counters`: whatever the folder held before is gone), listed in `config.ini` by
`create_filename_list`, and read back by `_load_from_multiple_files`.  For the counter dict of any training run (one Counter per
length, `update_keys_nodup`) the load succeeds when every file parses, the variable `<letter><n>` holds exactly the parsed content
of the file of length n, and no other variable is touched — file names, config list and loader agree for every counter, every previous
content of the folder and every way of writing a Counter to a file. -/
theorem C07_trained_folder_loads {γ β : Type} (U : Detect.UEnv) (cfg : Detect.MWCfg) (pws : List CPs) (ch : Char)
    (field : Trainer.Counters → Detect.LenCtr) (items : Detect.Parsed → List CPs)
    (hf : ∀ c p, field (c.update p) = Detect.updateLenIndexed (field c) (items p)) (h0 : field {} = [])
    (content : Detect.MWTable → γ) (parse : γ → Option β)
    (hparse : ∀ e ∈ field (Trainer.train U cfg pws), (parse (content e.2)).isSome)
    (old : List (String × γ)) (g0 : List (String × β)) :
    ∃ g', LoadMulti.loadMultiple
        (fun fn => (LoadMulti.lookup (RuleDir.saveIndexed (fun n : Nat => toString n) ".txt" old
          ((field (Trainer.train U cfg pws)).map fun e => (e.1, content e.2))) fn).bind parse)
        (String.ofList [ch])
        (RuleDir.filenameList (fun n : Nat => toString n) ".txt" ((field (Trainer.train U cfg pws)).map fun e => (e.1, content e.2)))
        g0 = some g' ∧
      (∀ e ∈ field (Trainer.train U cfg pws), LoadMulti.lookup g' (Detect.lbl ch e.1) = parse (content e.2)) ∧
      (∀ k, (∀ n, Detect.lbl ch n ≠ k) → LoadMulti.lookup g' k = LoadMulti.lookup g0 k) :=
  Trainer.trained_folder_loads ch _ (Trainer.train_keys_nodup U cfg field items hf h0 pws) content parse hparse old g0

/-! ## The OMEN files (`Omen/IP.level`, `CP.level`, `LN.level`)

`Model/OmenFiles.lean`: the records the trainer writes (`ipLines`, `cpLines`, `lnLines`: one `(level, n-gram)` per line in
the iteration order of its dicts) and the guesser's `_load_ngrams` / `_load_length` on them (`loadIp`, `loadCp`, `loadLn`,
`loadTables`; `none` = the loader raises).  `toTables` is the closed form the C10 / C11 / C18 theorems use. -/

/-- **the OMEN files of a trained ruleset load without an error, and the guesser's tables are `toTables`** as far as any
look-up can tell: the same `ip` table, the same `ln` table (lengths below the n-gram size dropped, the others stored as
`length − (ngram − 1)`), the same `max_level`, and the same list of letters for every `cp[prefix][level]` -/
theorem C07_omen_files_load (t : Omen.TTables) (hwf : t.WF) :
    ∃ tb, t.loadTables = some tb ∧ tb.ipTbl = t.toTables.ipTbl ∧ tb.lnTbl = t.toTables.lnTbl ∧
      tb.m.maxLevel = t.toTables.m.maxLevel ∧ ∀ ip l, tb.m.cpChars ip l = t.toTables.m.cpChars ip l :=
  Omen.loadTables_spec t hwf.good

/-- the generator's `_find_cp` reads the `cp` dict only through those look-ups, so it cannot tell the loaded dict from
`toTables` (dict iteration order, the order in which the levels of a prefix were first seen, are invisible to it) -/
theorem C07_find_cp_reads_lookups (m1 m2 : Omen.Model) (hM : m1.maxLevel = m2.maxLevel)
    (h : ∀ ip l, m1.cpChars ip l = m2.cpChars ip l) (ip : Omen.Str) (top bottom : Nat) :
    m1.findCp ip top bottom = m2.findCp ip top bottom :=
  (Omen.Model.Sim.mk hM h).findCp ip top bottom

/-- a level above `max_level` makes each of the three loaders raise instead of storing it: shown on files of one record
(`LN.level` read with n-gram size 2) -/
theorem C07_omen_level_out_of_range (maxLevel : Nat) (l : Nat) (k : Omen.Str) (hl : maxLevel < l) :
    Omen.loadIp maxLevel [(l, k)] = none ∧ Omen.loadCp maxLevel [(l, k)] = none ∧ Omen.loadLn maxLevel 2 [l] = none := by
  have : ¬ l ≤ maxLevel := by omega
  simp [Omen.loadIp, Omen.loadIpGo, Omen.loadCp, Omen.loadCpGo, Omen.loadLn, Omen.loadLnGo, this]

/-- the record order the file model assumes is the one of the source (regenerated): `IP.level`, `EP.level` and `CP.level` are written by
loops over `omen_trainer.grammar.items()` (for `CP.level` with an inner loop over `data['next_letter'].items()`), `LN.level` over
`enumerate(omen_trainer.ln_lookup)`, and every writing loop of the OMEN writer (these, and those of the three `.txt` files) writes one
record per iteration - none leaves a record out -/
theorem C07_omen_writer_loops :
    Generated.WriterLoops.omenLoops.take 5 =
      [("IP.level", "omen_trainer.grammar.items()"), ("EP.level", "omen_trainer.grammar.items()"),
       ("CP.level", "omen_trainer.grammar.items()"), ("CP.level", "data['next_letter'].items()"),
       ("LN.level", "enumerate(omen_trainer.ln_lookup)")] ∧
    Generated.WriterLoops.omenLoopBodies.all (·.2 == "every-record") = true :=
  ⟨rfl, by decide +kernel⟩

/-- **the text layer of an OMEN level file.**  `omenFileText` is what the trainer writes for `IP.level` / `EP.level` / `CP.level`
(`str(level) + TAB + ngram + LF` per record), `loadOmenText` the front of `_load_ngrams` and of the scorer's `_load_omen` (codec
line iteration, `rstrip('\n\r')`, `split('\t')` into exactly two fields, `int()` of the first): for every list of records whose
n-grams contain neither a line boundary nor a TAB - what `check_valid` guarantees of every accepted password - the text reads back as
exactly the records written.  N-grams that end in a blank, U+00A0, U+3000 are returned whole (only CR / LF are stripped). -/
theorem C07_omen_text_roundtrip (records : List (Nat × CPs))
    (h : ∀ r ∈ records, ∀ c ∈ r.2, isLineSep c = false ∧ c ≠ 9) :
    loadOmenText (omenFileText records) = some records :=
  loadOmenText_omenFileText records h

/-- **`Omen/alphabet.txt`** (`_save_alphabet`: one letter per line; the guesser's `_load_alphabet`: line iteration and
`rstrip('\n\r')`): the file reads back as the alphabet written, letter by letter - a blank, U+00A0 or U+3000 stays the letter it is -/
theorem C07_omen_alphabet_roundtrip (letters : CPs) (h : ∀ c ∈ letters, isLineSep c = false) :
    Omen.loadAlphabet (Omen.alphabetText letters) = letters.map fun c => [c] :=
  Omen.loadAlphabet_alphabetText letters h

/-- non-vacuity of `C07_omen_text_roundtrip`: an n-gram ending in a space, one ending in U+3000, level 10 -/
example : loadOmenText (omenFileText [(0, [97, 32]), (10, [98, 0x3000]), (3, [32, 32])]) =
    some [(0, [97, 32]), (10, [98, 0x3000]), (3, [32, 32])] := C07_omen_text_roundtrip _ (by decide)

/-- non-vacuity: the bigram tables of `OmenTrainCore` are well-formed and load -/
example : ∃ tb, Omen.exTT.loadTables = some tb ∧ tb.ipTbl = Omen.exTT.toTables.ipTbl :=
  let ⟨tb, h1, h2, _⟩ := C07_omen_files_load Omen.exTT Omen.exTT_wf
  ⟨tb, h1, h2⟩

end Pcfg.C07
