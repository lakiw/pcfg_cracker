import PcfgVerif.Properties.PQCore
/-! A concrete run of the next function started from a restored queue (non-vacuity of C08). -/
namespace Pcfg
namespace Example

/-- resume with saved probability 64: the rebuilt queue is the two tied nodes -/
example : restoreNodes natAlg.toPOps g0 64 0 = [⟨0, [1, 0]⟩, ⟨0, [0, 1]⟩] := by decide

theorem hmin0 : ∀ v, ValidNode g0 v → natAlg.lt (nodeProb natAlg.toPOps g0 v) 0 = false := by
  intro v _; simp [POps.lt, natAlg]

def finalR : PQState := ⟨[], [⟨0, [1, 0]⟩, ⟨0, [0, 1]⟩, ⟨0, [1, 1]⟩]⟩

theorem reachR : Reach natAlg.toPOps g0 (restoreNodes natAlg.toPOps g0 64 0) finalR := by
  have h0 : Reach natAlg.toPOps g0 (restoreNodes natAlg.toPOps g0 64 0)
    ⟨restoreNodes natAlg.toPOps g0 64 0, []⟩ := Reach.init
  have h1 := Reach.step (x := ⟨0, [1, 0]⟩) h0 (by decide)
  have h2 := Reach.step (x := ⟨0, [0, 1]⟩) h1 (by decide)
  have h3 := Reach.step (x := ⟨0, [1, 1]⟩) h2 (by decide)
  exact h3

end Example

end Pcfg
