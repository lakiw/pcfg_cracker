import PcfgVerif.Properties.SourceTables.ProcessState
import PcfgVerif.Generated.ProcessState
import PcfgVerif.Generated.CliOptions
import PcfgVerif.Lemmas.SamplerLemmas
/-!
# C16 — honeywords are drawn from the grammar with the grammar's probabilities

`random_walk` selects the base structure, and then a group for each of its positions, by `pick`: the first index whose
running sum of the weights reaches a uniform draw.  The draws are inputs of the model (`Model/Sampler.lean`), so the
statements hold for every value of a draw (the whole unit interval), not for a sample.
* the probabilities: which draws select index `j` (`C16_pick`), that their interval has length `w_j`
  (`C16_interval_length`), and that of `T` equally spaced draws exactly `ws[j]` select `j` (`C16_uniform_count`).  These
  speak of `pick`; of the walk that applies it (`randomWalk`, run by the driver against the real `random_walk`) no theorem
  is stated, so that the probability of a derivation is the product over its positions is not stated in Lean.
* the language: `C16_member`, `C16_markov_no_word`;  `--limit`: `C16_count`.
* which ruleset is read: `C16_rule_name_is_the_typed_name`, `C16_no_process_wide_state` (tables regenerated from the source).

Left to the harness: the model against the code on scripted draws; that `random.random()` and `random.choice` are
uniform and, seeded 1, 2, 3, … in random-walk mode, reproducible (the Mersenne Twister is trusted).
-/
namespace Pcfg.C16
variable {Q : Type}

/-- the selected index is the first whose running sum reaches the draw: for every draw `u`, index `j` is selected iff
`S_j ≥ u` and `S_m ≥ u` fails for every `m < j` (`ge` is any test; with non-negative weights in an ordered field this is
`u ∈ (S_{j-1}, S_j]`, and `u ≤ S_0` for `j = 0`) -/
theorem C16_pick (S : SOps Q) (ws : List Q) (u : Q) (j : Nat) :
    pick S ws u = some j ↔
      j < ws.length ∧ S.ge (runSum S ws (j + 1)) u = true ∧ ∀ m, m < j → S.ge (runSum S ws (m + 1)) u = false := by
  simp only [pick, pickGo_eq, Nat.add_zero, Option.map_id', List.findIdx?_eq_some_iff_getElem, List.getElem_tail,
    List.getElem_scanl, List.length_tail, List.length_scanl, Nat.add_sub_cancel, runSum, Bool.not_eq_true, exists_prop]

/-- the interval of index `j` has length `w_j` (stated over the integers: probabilities scaled to a
common denominator) -/
theorem C16_interval_length (ws : List Int) (j : Nat) (hj : j < ws.length) :
    runSum ⟨0, (· + ·), fun a b => decide (a ≥ b)⟩ ws (j + 1) -
      runSum ⟨0, (· + ·), fun a b => decide (a ≥ b)⟩ ws j = ws[j] := by
  unfold runSum
  rw [List.take_succ_eq_append_getElem hj, List.foldl_append]
  simp only [List.foldl_cons, List.foldl_nil]
  omega

/-- non-vacuity: weights 1,2,1 and draw 3 select index 1 (running sums 1,3,4) -/
example : pick ⟨0, (· + ·), fun a b => decide (a ≥ b)⟩ [1, 2, 1] (3 : Int) = some 1 := by decide +kernel

def intOps : SOps Int := ⟨0, (· + ·), fun a b => decide (a ≥ b)⟩

theorem runSum_int (ws : List Nat) (k : Nat) :
    runSum intOps (ws.map (fun n : Nat => (n : Int))) k = ((ws.take k).sum : Nat) := by
  rw [runSum, ← List.map_take, List.foldl_map, List.sum_eq_foldl_nat]
  exact List.foldl_hom (fun n : Nat => (n : Int)) fun _ _ => (Int.natCast_add _ _).symm

/-- integer weights (counts): the draw `k + 1` of the grid selects `j` iff `k` lies in the half-open interval between
the prefix sums before and after `j` -/
theorem pick_nat_iff (ws : List Nat) (j k : Nat) (hj : j < ws.length) :
    pick intOps (ws.map (fun n : Nat => (n : Int))) ((k : Int) + 1) = some j ↔
      (ws.take j).sum ≤ k ∧ k < (ws.take (j + 1)).sum := by
  rw [C16_pick]
  simp only [List.length_map, runSum_int]
  simp only [intOps, decide_eq_true_eq, decide_eq_false_iff_not]
  constructor
  · rintro ⟨_, h1, h2⟩
    refine ⟨?_, by omega⟩
    cases j with
    | zero => simp
    | succ j => have := h2 j (by omega); omega
  · rintro ⟨h1, h2⟩
    refine ⟨hj, by omega, fun m hm => ?_⟩
    have := sum_le_of_prefix (List.take_prefix_take_left (l := ws) (i := m + 1) hm)
    omega

/-- **uniform draws, as counting measure.**  Weights are integer counts `ws` (probabilities over the common denominator
`T = Σ ws`, which is how the trainer produces them); let the draw run over the `T` equally spaced points
`1/T, 2/T, …, 1` of the unit interval (scaled by `T`).  Exactly `ws[j]` of these `T` draws select index `j`: on this
grid index `j` is chosen with frequency `ws[j] / T`.  (Replacing `ws` by `ws.map (M * ·)` gives the same on a finer grid.) -/
theorem C16_uniform_count (ws : List Nat) (j : Nat) (hj : j < ws.length) :
    ((List.range ws.sum).filter
        (fun k : Nat => pick intOps (ws.map (fun n : Nat => (n : Int))) ((k : Int) + 1) == some j)).length = ws[j] := by
  simp only [Bool.beq_eq_decide_eq, pick_nat_iff ws j _ hj]
  rw [count_range _ _ _ (sum_le_of_prefix (List.take_prefix_take_left (Nat.le_succ j)))
    (sum_le_of_prefix (List.take_prefix _ ws)), List.take_succ_eq_append_getElem hj, List.sum_append]
  simp

/-- counts 1, 2, 1: of the four draws 1/4 … 4/4 exactly two select index 1 -/
example : ((List.range 4).filter (fun k : Nat => pick intOps [1, 2, 1] ((k : Int) + 1) == some 1)).length = 2 := by
  decide +kernel

/-- a word `_honeyword_recursive_guess` builds from a pre-terminal `pt`, whatever the index draws `ks`, is one of the
guesses of `pt` (`productSpec`, the non-Markov language of C04) -/
theorem C16_member (upper : Char → List Char) (g : EGrammar) (cur : Str) (pt : PT) (ks : List Nat)
    (w : Str) (h : honeyWord upper g cur pt ks = some w) : w ∈ productSpec upper g cur pt := by
  -- the cases are the branches of `honeyWord` in order: only the first and the fourth yield a word
  fun_induction honeyWord upper g cur pt ks with
  | case1 => obtain rfl := Option.some.inj h; exact List.mem_singleton_self _
  | case4 _ _ _ _ _ _ _ _ hvals hcat _ _ hv _ hc ih =>
    exact mem_productSpec_cons hcat hvals (List.mem_of_getElem? hv) hc (ih h)
  | _ => cases h

/-- a pre-terminal that starts with the Markov variable yields no word -/
theorem C16_markov_no_word (upper : Char → List Char) (g : EGrammar) (cur : Str) (i : Nat) (rest : PT)
    (ks : List Nat) : honeyWord upper g cur (("M", i) :: rest) ks = none := by
  unfold honeyWord
  split
  · next hcat _ => obtain rfl : 'M' = _ := Option.some.inj hcat; rfl  -- `isMarkov 'M'` is `true`
  · rfl

/-- words of the first `fuel` walks, in seed order -/
def wordsFrom (word : Nat → Option Str) (seed fuel : Nat) : List Str :=
  (List.range fuel).filterMap fun i => word (seed + i)

theorem wordsFrom_succ (word : Nat → Option Str) (seed fuel : Nat) :
    wordsFrom word seed (fuel + 1) =
      (match word seed with | some w => [w] | none => []) ++ wordsFrom word (seed + 1) fuel := by
  unfold wordsFrom
  rw [List.range_succ_eq_map, List.filterMap_cons]
  cases word seed <;> simp [Function.comp_def, Nat.add_assoc, Nat.add_comm 1]

/-- `HoneywordSession.run` with `--limit n`, `n ≥ 1`, over `fuel` walks seeded `seed, seed + 1, …` (`word s` is what the
walk with seed `s` yields): it writes the words of the walks that yield one, in seed order, cut after the `n`-th — never
more than `n`, and `n` as soon as `n` walks yielded a word -/
theorem C16_count (word : Nat → Option Str) (fuel seed n : Nat) (hn : 1 ≤ n) :
    honeyLoop word fuel seed (some (n : Int)) = (wordsFrom word seed fuel).take n := by
  induction fuel generalizing seed n with
  | zero => exact List.take_nil.symm
  | succ fuel ih =>
    rw [honeyLoop_succ_limit word fuel seed n hn, wordsFrom_succ]
    cases word seed with
    | none => exact ih (seed + 1) n hn
    | some w =>
      rw [List.singleton_append, List.take_cons hn]
      by_cases h1 : n ≤ 1
      · rw [if_pos h1, Nat.sub_eq_zero_of_le h1, List.take_zero]
      · rw [if_neg h1, ih (seed + 1) (n - 1) (by omega)]

/-- the ruleset the words are drawn from is the one named on the command line: the option parser assigns `args.rule` unchanged
(regenerated from the source; the only other assignment is `load_save` restoring a saved session) -/
theorem C16_rule_name_is_the_typed_name :
    Generated.CliOptions.guesserAssign.filter (fun a => a.2.1 == "rule_name") =
      [("parse_command_line", "rule_name", "args.rule"),
       ("load_save", "rule_name", "save_config.get('rule_info', 'rule_name')")] := by
  decide +kernel

/-- **nothing outlives a call except the objects a caller holds** (regenerated from the four library packages): no module-level or
class-level container that changes, no cache decorator or cache call, no computed default argument and no `global` statement anywhere in
`lib_guesser`, `lib_trainer`, `lib_scorer`, `lib_princeling` - an answer cannot depend on what another object, an earlier ruleset in the
same process or the other thread did -/
theorem C16_no_process_wide_state : Generated.ProcessState.processWideState = [] :=
  SourceTables.no_process_wide_state

end Pcfg.C16
