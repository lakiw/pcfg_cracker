import PcfgVerif.Lemmas.OmenToTables
/-!
# Trainer = scorer = guesser (C11) and the recorded keyspace (C18): the hypothesis and test vectors

`TTables.WF` is the hypothesis of the C11 / C18 statements; the lemma files work under `TTables.Good`, which has the same
fields (`TTables.WF.good`).  Two small rule sets on which the three views of the level and the two views of the keyspace are
evaluated, and two on which the statements fail without `ngram_ge` / `cp_levels`.
-/
namespace Omen

/-- what the trainer's tables satisfy: every (n−1)-gram key once, every next letter once per key,
keys of length n−1, all levels within 0..maxLevel -/
structure TTables.WF (t : TTables) : Prop where
  ngram_ge : 2 ≤ t.ngram
  keys_nodup : (t.entries.map (·.key)).Nodup
  key_len : ∀ e ∈ t.entries, e.key.length = t.ngram - 1
  letters_nodup : ∀ e ∈ t.entries, (e.next.map (·.1)).Nodup
  ip_levels : ∀ e ∈ t.entries, e.ipLevel ≤ t.maxLevel
  cp_levels : ∀ e ∈ t.entries, ∀ p ∈ e.next, p.2 ≤ t.maxLevel
  ln_levels : ∀ l ∈ t.lns, l ≤ t.maxLevel

theorem TTables.WF.good {t : TTables} (h : t.WF) : t.Good :=
  ⟨h.ngram_ge, h.keys_nodup, h.key_len, h.letters_nodup, h.ip_levels, h.cp_levels, h.ln_levels⟩

section NonVacuity

/-- bigram model over `a`, `b`; lengths 1..4 (length 1 is below `ngram`, so never generated) -/
def exTT : TTables :=
  { ngram := 2, maxLevel := 3
    entries := [⟨['a'], 0, [('a', 0), ('b', 1)]⟩, ⟨['b'], 1, [('a', 1)]⟩]
    lns := [3, 0, 1, 3] }

theorem exTT_wf : exTT.WF := by
  constructor <;> decide +kernel

/-- trigram model; the key `bb` has no successor (it is dropped from `cp` by the loader) -/
def exTT3 : TTables :=
  { ngram := 3, maxLevel := 3
    entries := [⟨['a', 'a'], 0, [('a', 0), ('b', 1)]⟩, ⟨['a', 'b'], 1, [('a', 1), ('b', 2)]⟩,
      ⟨['b', 'a'], 2, [('a', 1)]⟩, ⟨['b', 'b'], 2, []⟩]
    lns := [3, 0, 1, 3, 2] }

theorem exTT3_wf : exTT3.WF := by
  constructor <;> decide +kernel

theorem exTT_start : exTT.toTables.start = some ⟨⟨0, 0, 0, 0⟩, []⟩ := rfl

-- "aba": length 3 (level 1) + ip `a` (0) + a→b (1) + b→a (1) = 3, in all three views
example : exTT.trainerLevel ['a', 'b', 'a'] = some 3 := by decide +kernel
example : exTT.scorerLevel ['a', 'b', 'a'] = some 3 := by decide +kernel
example : exTT.toTables.levelOf 1 ['a', 'b', 'a'] = some 3 := by decide +kernel
-- unknown letter / too short / too long: −1 in all three views
example : exTT.trainerLevel ['a', 'c'] = none ∧ exTT.scorerLevel ['a', 'c'] = none ∧
    exTT.toTables.levelOf 1 ['a', 'c'] = none := by decide +kernel
example : exTT.trainerLevel ['a'] = none ∧ exTT.scorerLevel ['a'] = none ∧
    exTT.toTables.levelOf 1 ['a'] = none := by decide +kernel
example : exTT.trainerLevel ['a', 'a', 'a', 'a', 'a'] = none ∧
    exTT.scorerLevel ['a', 'a', 'a', 'a', 'a'] = none ∧
    exTT.toTables.levelOf 1 ['a', 'a', 'a', 'a', 'a'] = none := by decide +kernel

-- keyspace per level = number of guesses the generator emits at that level
example : (List.range 8).map exTT.levelKeyspace = [1, 2, 2, 3, 2, 3, 2, 1] := by decide +kernel
example : (List.range 8).map (fun L => (exTT.toTables.enumLevel L 1000).map List.length) =
    [some 1, some 2, some 2, some 3, some 2, some 3, some 2, some 1] := by decide +kernel
example : exTT.toTables.enumLevel 3 1000 =
    some [['a', 'b', 'a'], ['b', 'a', 'a'], ['a', 'a', 'a', 'a']] := by decide +kernel
example : (List.range 8).map exTT3.levelKeyspace = [0, 1, 2, 3, 4, 5, 5, 2] := by decide +kernel
example : (List.range 8).map (fun L => (exTT3.toTables.enumLevel L 1000).map List.length) =
    [some 0, some 1, some 2, some 3, some 4, some 5, some 5, some 2] := by decide +kernel

example : lookupRow (exTT.ksRow 7 3) ['a'] 2 = 2 ∧ exTT.recKeyspace 3 ['a'] 2 = 2 ∧
    (exTT.toTables.m.allTrees 3 ['a'] 2).length = 2 := by decide +kernel
example : exTT.calcKeyspace 2 10 1 = [(1, 2), (2, 2), (3, 3)] := by decide +kernel

end NonVacuity

section Necessity

/-- `ngram = 1`: the trainer's state `nextIp [] c = [c]` is no key, the scorer's window is fine -/
def exBad1 : TTables := { ngram := 1, maxLevel := 3, entries := [⟨[], 0, [('a', 0)]⟩], lns := [0, 0] }

example : exBad1.scorerLevel ['a', 'a'] = some 0 ∧ exBad1.trainerLevel ['a', 'a'] = none := by decide +kernel

/-- a transition level above `maxLevel` is not loaded by the guesser -/
def exBad2 : TTables := { ngram := 2, maxLevel := 1, entries := [⟨['a'], 0, [('a', 2)]⟩], lns := [0, 0] }

example : exBad2.toTables.levelOf 1 ['a', 'a'] = none ∧ exBad2.trainerLevel ['a', 'a'] = some 2 ∧
    exBad2.recKeyspace 1 ['a'] 2 = 1 ∧ (exBad2.toTables.m.allTrees 1 ['a'] 2).length = 0 := by decide +kernel

end Necessity

end Omen
