import PcfgVerif.Properties.SourceTables.CliOptions
import PcfgVerif.Properties.SourceTables.ProcessState
import PcfgVerif.Generated.ProcessState
import PcfgVerif.Generated.CliOptions
import PcfgVerif.Lemmas.TrainedListed
import PcfgVerif.Properties.C13Witness
/-!
# C13 — a non-zero score is a promise the guesser keeps

`score` is the scorer (`PCFGPasswordScorer.parse` after the detectors), `parse` the detector pipeline
shared with the trainer (C05), `productSpec` the guesses of a pre-terminal (C04), `probFold` the
guesser's `_find_prob`.  `Agree` says that the guesser's grammar and the scorer's tables were loaded
from the same files (shown for the loader models by `C13_same_files`, from the C07 round trips).
`CaseInvAll` is the domain clause: the case mapping is one-to-one on the password's letters; where it
is not (title-case digraphs, U+0130 …) the promise fails on the real code — the recorded known
finding (`C13_outside_domain`).  Probabilities are elements of a commutative monoid with absorbing zero (exact arithmetic);
over doubles the two products differ by rounding only (the harness allows 1e-12 relative).

The clauses of the property: `C13_promise` (for every trained ruleset: `C13_trained_promise`), `C13_email_web_zero`,
`C13_deterministic`; what the detectors take for an e-mail address or a website: `C13_website_*`, `C13_email_detected_iff`
(the detectors are the trainer's: the same statements as in C05).
-/
namespace Pcfg.C13
open Pcfg.Detect

/-- strings in which an e-mail address or a website is detected get probability zero -/
theorem C13_email_web_zero {P : Type} (mul : P → P → P) (gt : P → P → Bool) (one zero limit : P)
    (g : ScoreG P) (p : Parsed) (omenOk : Bool) (h : p.emails ≠ [] ∨ p.websites ≠ []) :
    (score mul gt one zero limit g p omenOk).prob = zero ∧
    ((score mul gt one zero limit g p omenOk).category = 'e' ∨
     (score mul gt one zero limit g p omenOk).category = 'w') := by
  unfold score
  by_cases he : (!p.emails.isEmpty) = true
  · rw [if_pos he]; exact ⟨rfl, .inl rfl⟩
  · have hw : (!p.websites.isEmpty) = true := by
      rcases h with h | h
      · exact absurd (by simpa using h) he
      · simpa using h
    rw [if_neg he, if_pos hw]; exact ⟨rfl, .inr rfl⟩

/-- the lists the scorer multiplies over are, category by category, the texts of the labelled
sections of the parse (alpha words with their masks and their lower-casing in context) -/
theorem C13_coherent (U : UEnv) (cfg : MWCfg) (t : MWTable) (pw : CPs) (hne : pw ≠ [])
    (hl : LenPres U pw) : Coherent U pw (parse U cfg t pw) :=
  parse_coherent U cfg t pw hne hl

/-- **the promise**: a non-zero score is the probability (the guesser's own `_find_prob` product) of a
pre-terminal of the guesser's grammar — a base structure with one group per position — among whose
guesses is exactly the scored string (`le` is not constrained: `probFold` uses `mul` only, `le` is there to form a `POps`) -/
theorem C13_promise {P : Type} (M : CMon P) (le : P → P → Bool) (gt : P → P → Bool) (limit : P)
    (U : UEnv) (upper : Char → List Char) (cfg : MWCfg) (t : MWTable) (pw : CPs) (hne : pw ≠ [])
    (hl : LenPres U pw) (hsc : ScalarCPs pw) (hcase : CaseInvAll U upper pw)
    (g : ScoreG P) (V : GView P) (hag : Agree M.zero g V) (omenOk : Bool)
    (hnz : (score M.mul gt M.one M.zero limit g (parse U cfg t pw) omenOk).prob ≠ M.zero) :
    ∃ (reps : List String) (bp : P) (idx : List Nat), (reps, bp) ∈ V.bases ∧ idx.length = reps.length ∧
      toStr pw ∈ productSpec upper V.E [] (mkPT reps idx) ∧
      probFold ⟨le, M.mul⟩ bp (reps.map V.colP) idx =
        (score M.mul gt M.one M.zero limit g (parse U cfg t pw) omenOk).prob :=
  score_promise M le gt limit U upper cfg t pw hne hl hsc hcase g V hag omenOk hnz

set_option linter.unusedVariables false in
/-- the `Agree.term` link for the loader models: of one list file written by the trainer, the
scorer's loader returns the (value, probability) pairs and the guesser's loader groups in which every
value carries that same probability (`hd`, distinct values, is not used) -/
theorem C13_same_files {P : Type} [DecidableEq P] (parseP : CPs → Option P) (neg1 : P)
    (items : List (CPs × CPs))
    (hc : ∀ it ∈ items, CleanValue it.1 ∧ CleanProb it.2)
    (hp : ∀ it ∈ items, ∃ p, parseP it.2 = some p ∧ p ≠ neg1)
    (hd : (items.map (·.1)).Nodup) :
    ∃ gs tbl, loadFromFile parseP (fun a b => decide (a = b)) neg1 (writeFile items) = some gs ∧
      scorerLoad parseP (writeFile items) = some tbl ∧
      ∀ v p, (tbl.find? (·.1 == v)).map (·.2) = some p →
        ∃ (j : Nat) (grp : LGroup P), gs[j]? = some grp ∧ v ∈ grp.values ∧ grp.prob = p :=
  agree_of_file parseP neg1 items hc hp

/-- the score depends only on the string and the ruleset: `score` and `parse` are functions (no state,
no randomness); recorded as the trivial statement it is -/
theorem C13_deterministic {P : Type} (mul : P → P → P) (gt : P → P → Bool) (one zero limit : P)
    (g : ScoreG P) (U : UEnv) (cfg : MWCfg) (t : MWTable) (pw pw' : CPs) (omenOk : Bool) (h : pw = pw') :
    score mul gt one zero limit g (parse U cfg t pw) omenOk =
    score mul gt one zero limit g (parse U cfg t pw') omenOk := by rw [h]

/-- outside the domain clause the promise fails (recorded known finding, replayed by the harness on the
real trainer, scorer and guesser): for `ǅabc1` (U+01C5, a letter that is neither upper nor lower case and
lower-cases to U+01C6) every factor is found, the score is 210 ≠ 0, the string is not among the guesses of the pre-terminal of
those factors (it emits `ǆabc1` only: `C13Witness.guesser_emits_other`), and `CaseInvAll` does not hold -/
theorem C13_outside_domain (gt : Nat → Nat → Bool) (limit : Nat) (omenOk : Bool) :
    (score (· * ·) gt 1 0 limit C13Witness.g (parse C13Witness.titleU {} [] C13Witness.pw) omenOk).prob = 210 ∧
    toStr C13Witness.pw ∉ productSpec C13Witness.up C13Witness.E [] [("A4", 0), ("C4", 0), ("D1", 0)] ∧
    ¬ CaseInvAll C13Witness.titleU C13Witness.up C13Witness.pw :=
  ⟨C13Witness.score_nonzero gt limit omenOk, C13Witness.guesser_emits_other.2, C13Witness.not_caseInv⟩

/-- **the promise for every trained ruleset, with no hypothesis about the ruleset**: train on any list (`Trainer.train`), write the
lists with any coverage; the scorer reads `scoreGOf`, the guesser `viewOf` (`Agree` between the two is `Trainer.train_agree`).
Then for *every* candidate string — in the training list or not — and whatever multi-word table the scorer's own detector holds, a
non-zero score is the probability of a pre-terminal of the guesser's grammar that has the string among its guesses.  Remaining
hypotheses: `pw ≠ []`, `ScalarCPs pw`, the domain clause (`CaseInvAll`, `LenPres`) and the tokeniser's `isalpha` on `A`–`Z` / `0`–`9`. -/
theorem C13_trained_promise (U : UEnv) (upper : Char → List Char) (cfg : MWCfg) (pws : List CPs) (cov : Rat)
    (isAlpha : Nat → Bool) (hcap : ∀ c, 65 ≤ c → c ≤ 90 → isAlpha c = true) (hdig : ∀ c, 48 ≤ c → c ≤ 57 → isAlpha c = false)
    (le gt : Rat → Rat → Bool) (limit : Rat) (t : MWTable) (pw : CPs) (hne : pw ≠ [])
    (hl : LenPres U pw) (hsc : ScalarCPs pw) (hcase : CaseInvAll U upper pw) (omenOk : Bool)
    (hnz : (score (· * ·) gt 1 0 limit (Trainer.scoreGOf cov pws.length (Trainer.train U cfg pws)) (parse U cfg t pw) omenOk).prob ≠ 0) :
    ∃ (reps : List String) (bp : Rat) (idx : List Nat),
      (reps, bp) ∈ (Trainer.viewOf isAlpha cov pws.length (Trainer.train U cfg pws)).bases ∧ idx.length = reps.length ∧
      toStr pw ∈ productSpec upper (Trainer.viewOf isAlpha cov pws.length (Trainer.train U cfg pws)).E [] (mkPT reps idx) ∧
      probFold ⟨le, (· * ·)⟩ bp (reps.map (Trainer.viewOf isAlpha cov pws.length (Trainer.train U cfg pws)).colP) idx =
        (score (· * ·) gt 1 0 limit (Trainer.scoreGOf cov pws.length (Trainer.train U cfg pws)) (parse U cfg t pw) omenOk).prob :=
  C13_promise C03.ratCMon le gt limit U upper cfg t pw hne hl hsc hcase _ _
    (Trainer.train_agree isAlpha hcap hdig U cfg pws cov pws.length) omenOk hnz

/-- the option glue of `password_scorer.py` (regenerated from the source): ruleset name, input, output, cut-off, OMEN level
cap and count-prefix flag reach the scorer as typed -/
theorem C13_cli_passes_options :
    Generated.CliOptions.scorerAssign =
      [("parse_command_line", "rule_name", "args.rule"),
       ("parse_command_line", "input_file", "args.input"),
       ("parse_command_line", "output_file", "args.output"),
       ("parse_command_line", "limit", "args.limit"),
       ("parse_command_line", "max_omen_level", "args.max_omen"),
       ("parse_command_line", "prefixcount", "args.prefixcount")] := by
  decide

/-- **every tool works on the same `Rules` folder** (regenerated from the five programs): the trainer, the guesser, `edit_rules.py`,
`prince_ling.py` and the scorer each build the ruleset directory from one and the same expression for their own location - so a ruleset
one tool wrote or edited under a name is the ruleset another tool reads under that name, from whatever directory or through whatever link
either was started -/
theorem C13_tools_share_the_rules_folder :
    (["trainer.py", "pcfg_guesser.py", "edit_rules.py", "prince_ling.py", "password_scorer.py"].all
      fun p => Generated.CliOptions.rulesDirRoots.any (·.1 == p)) = true ∧
    ∀ a ∈ Generated.CliOptions.rulesDirRoots, ∀ b ∈ Generated.CliOptions.rulesDirRoots, a.2 = b.2 :=
  SourceTables.tools_share_the_rules_folder

/-- **which occurrence of a top-level domain makes a string a website** (the scorer calls the trainer's `detect_website`; the
statement of `C05_website_first_host_end`): the position the search loop returns for a domain of the table is the first occurrence of the domain
that ends a host name - it ends the string, or what follows is neither a letter nor a dot -/
theorem C13_website_first_host_end (U : Detect.UEnv) (w tld : CPs) (hm : tld ∈ Generated.Tables.tldList) (total : Nat)
    (h : Detect.tldOccurrence U w tld (w.length + 1) (Detect.findSub w tld) = some total) :
    Detect.OccursAt w tld total ∧ Detect.endsHost U w tld total = true ∧
      ∀ k, k < total → Detect.OccursAt w tld k → Detect.endsHost U w tld k = false :=
  Detect.tldSearch_first_host_end U w tld hm total h

/-- run through the model with ASCII letters: `.com` of `www.community.com` is found at 13 (not at 3),
`.com` of `site.com-my.company` at 4 (not at 11) -/
example :
    let U : Detect.UEnv := ⟨fun c => (97 ≤ c && c ≤ 122) || (65 ≤ c && c ≤ 90), fun c => 48 ≤ c && c ≤ 57, fun c => 65 ≤ c && c ≤ 90, id, id⟩
    let tld := ".com".toList.map Char.toNat
    let w1 := "www.community.com".toList.map Char.toNat
    let w2 := "site.com-my.company".toList.map Char.toNat
    Detect.tldOccurrence U w1 tld (w1.length + 1) (Detect.findSub w1 tld) = some 13 ∧
    Detect.tldOccurrence U w2 tld (w2.length + 1) (Detect.findSub w2 tld) = some 4 := by
  decide +kernel

/-- ... and the search finds a position exactly when some occurrence of the domain in the string ends a host name
(`C05_website_found_iff`) -/
theorem C13_website_found_iff (U : Detect.UEnv) (w tld : CPs) (hm : tld ∈ Generated.Tables.tldList) :
    (Detect.tldOccurrence U w tld (w.length + 1) (Detect.findSub w tld)).isSome = true ↔
      ∃ k, Detect.OccursAt w tld k ∧ Detect.endsHost U w tld k = true :=
  Detect.tldSearch_finds_iff U w tld hm

/-- **`detect_website` as a whole** (`C05_website_detected_iff`): a section is taken for a website exactly when, in its lower-cased
working copy, some top-level domain of the table has an occurrence that ends a host name -/
theorem C13_website_detected_iff (U : Detect.UEnv) (text : CPs) :
    (Detect.detectWebsite U text).isSome = true ↔
      ∃ tld ∈ Generated.Tables.tldList, ∃ k, Detect.OccursAt (U.lowerS text) tld k ∧ Detect.endsHost U (U.lowerS text) tld k = true :=
  Detect.detectWebsite_isSome_iff U text

/-- **`detect_email` as a whole** (`C05_email_detected_iff`): a section is taken for an e-mail address exactly when, in its
lower-cased working copy, the *first* occurrence of some top-level domain of the table has an `@` somewhere in front of its end -/
theorem C13_email_detected_iff (U : Detect.UEnv) (text : CPs) :
    (Detect.detectEmail U text).isSome = true ↔
      ∃ tld ∈ Generated.Tables.tldList, ∃ e0, Detect.findSub (U.lowerS text) tld = some e0 ∧
        ∃ m, Detect.OccursAt ((U.lowerS text).take (e0 + tld.length)) [Detect.cpOf '@'] m :=
  Detect.detectEmail_isSome_iff U text

/-- **nothing outlives a call except the objects a caller holds**: the list, regenerated from the four library packages, of every
module-level or class-level mutable container, cache decorator or cache call (`functools.lru_cache`, `cache`), mutable or computed default
argument and `global` statement in `lib_guesser`, `lib_trainer`, `lib_scorer`, `lib_princeling` is empty.
C13 needs it because `score` is a function of the string and the scorer's tables (`C13_deterministic`): a score cannot depend on the strings
scored before or on another ruleset in the same process -/
theorem C13_no_process_wide_state : Generated.ProcessState.processWideState = [] :=
  SourceTables.no_process_wide_state

end Pcfg.C13
