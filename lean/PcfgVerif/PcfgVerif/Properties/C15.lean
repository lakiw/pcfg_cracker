import PcfgVerif.Properties.SessionCore
import PcfgVerif.Properties.SourceTables.CliOptions
import PcfgVerif.Properties.SourceTables.Session
import PcfgVerif.Model.Omen
/-!
# C15 — a Markov level interrupted mid-way resumes at the very next guess

Session level (the state machine of `Model/Session.lean`, as in C12): `remaining us f` is what a session started from
the files `f` has to print — the rest of the interrupted level if the save file asks for it, then everything from the
saved position.  A session that is quit leaves files that ask for exactly what it did not print (`C15_continue`); one that
runs to its end printed what it had to (`C15_then_rest`); the option that asks for the remainder of a level goes once
the level is through (`C15_no_replay`, `C15_option_removed`).  The theorems hold for arbitrary starting files, hence for
every later quit/resume cycle; `C15_last_unit_loss` is the case their hypotheses leave out.

Enumerator level: the `.omn` file pickles target level, cursors and parse tree, in the model the parameter `target` and
the `CState`; `C15_enum_split` cuts a run of the model's generator after any number of guesses.  The pickle and
configparser round trips are trusted.

Session files: the `.sav` and `.omn` names are functions of the session name that never collide
(`C15_session_files_injective`), built by the expressions the source has (`C15_file_name_expressions`,
`C15_omn_name_same_at_save_and_load`) from the name as typed (`C15_session_name_is_the_typed_name`); a session without
`--limit` stands for one with it (`C15_limit_only_counts_down_and_stops`) and resumes on its own ruleset
(`C15_resumes_on_its_own_ruleset`).
-/
namespace Pcfg.C15
open Pcfg.Sess

set_option linter.unusedVariables false in
/-- a session whose main loop took the early exit, wherever the quit fell (in particular between two guesses of a Markov
level): what was printed, followed by what a session resumed from the files left behind has to print, is exactly what
this session had to print — nothing skipped, nothing repeated (`hf` is not needed) -/
theorem C15_continue (us : List Unit') (f : Files) (hf : f.omenOpt = true → f.omn.isSome = true)
    (stdin : List Ev) (sched : List Actor)
    (h : (run us (initLoad f stdin) sched).main = .exited) :
    (run us (initLoad f stdin) sched).out ++ remaining us (run us (initLoad f stdin) sched).files
      = remaining us f :=
  exit_resume_exact_all us f stdin sched h

/-- a session, new or resumed, whose main loop finished with `omen_exit` unset (no quit inside a Markov level) has
printed `remaining us f`: the rest of the interrupted level first, then the rest of the run -/
theorem C15_then_rest (us : List Unit') (f : Files) (stdin : List Ev) (sched : List Actor)
    (h : (run us (initLoad f stdin) sched).main = .finished)
    (ho : (run us (initLoad f stdin) sched).omenExit = false) :
    (run us (initLoad f stdin) sched).out = remaining us f :=
  (inv_run us f stdin sched).finished_complete h ho

/-- later cycles do not replay the remainder: a session that is quit with `omen_exit` unset (no quit inside a Markov
level, so a restored level ran to its end) leaves a save file without the `omen_guess_number` option, if the files it
started from held an `.omn` file whenever they had the option (`hf`) -/
theorem C15_no_replay (us : List Unit') (f : Files) (hf : f.omenOpt = true → f.omn.isSome = true)
    (stdin : List Ev) (sched : List Actor)
    (h : (run us (initLoad f stdin) sched).main = .exited)
    (ho : (run us (initLoad f stdin) sched).omenExit = false) :
    (run us (initLoad f stdin) sched).files.omenOpt = false :=
  (inv_run us f stdin sched).no_replay hf h ho

/-- the enumerator: the guesses of `fuel₁ + fuel₂` steps from a state are those of `fuel₁` steps followed, if these did
not exhaust the level, by those of `fuel₂` steps from some state `s'` (the proof takes the state reached after `fuel₁`
steps; the statement does not say which) -/
theorem C15_enum_split (t : Omen.Tables) (target : Nat) (fuel1 fuel2 : Nat) (s : Omen.CState) :
    ∃ s', t.enumFrom target (fuel1 + fuel2) s =
      t.enumFrom target fuel1 s ++
        (if (t.enumFrom target fuel1 s).length = fuel1 then t.enumFrom target fuel2 s' else []) := by
  induction fuel1 generalizing s with
  | zero => exact ⟨s, by simp [Omen.Tables.enumFrom]⟩
  | succ n ih =>
    rw [Nat.add_right_comm]
    cases hn : t.next target s with
    | none => exact ⟨s, by simp [Omen.Tables.enumFrom, hn]⟩
    | some p =>
      -- the state the remainder starts from is the one the first `n` steps after this one reach
      obtain ⟨s', hs'⟩ := ih p.2
      exact ⟨s', by simp [Omen.Tables.enumFrom, hn, hs']⟩

/-- `CrackingSession.run` removes `omen_guess_number` from the save config once a restored level is finished (read from
the source) -/
theorem C15_option_removed : Generated.Session.removesOmenOption = true := source_facts.2.1

/-- one run of the model, evaluated: the tool's recorded known finding `quit-in-last-markov-unit` replayed in Lean.  The
run has a single unit, a Markov level of three guesses; `q` is typed, and the schedule lets the keyboard thread handle
it after the first guess.  The level stops after the second guess and the third goes to the `.omn` file, but the main
loop then finds the queue empty and finishes without saving the session: two of three guesses are out and the save file
does not ask for the remainder (`omenOpt = false`).  This is the case the hypotheses `main = .exited` of `C15_continue`
and `omenExit = false` of `C15_then_rest` leave out. -/
theorem C15_last_unit_loss :
    let us := [Unit'.markov [[1], [2], [3]]]
    let s := run us (initNew [.line "q" false]) [.main, .main, .kbd, .kbd, .main, .main]
    s.main = .finished ∧ s.omenExit = true ∧ s.out = [[1], [2]] ∧ s.out ≠ fullStream us ∧
      s.files.omn = some [[3]] ∧ s.files.omenOpt = false := by
  decide +kernel

/-- the `.omn` file a resumed session loads is the one the interrupted session wrote: both sites of `pcfg_grammar.py` name it by
the same expression of the save-file name (re-proved against the current source on every run) — the state machine's single
field `omn` stands for one file -/
theorem C15_omn_name_same_at_save_and_load :
    Generated.Session.omnNameAtSave = Generated.Session.omnNameAtLoad ∧ Generated.Session.omnNameAtSave ≠ "" :=
  ⟨rfl, by decide +kernel⟩

/-- `program_info['session_name'] + '.sav'` -/
def savName (session : List Char) : List Char := session ++ ".sav".toList
/-- `self.save_file[:-4] + '.omn'` -/
def omnName (saveFile : List Char) : List Char := saveFile.take (saveFile.length - 4) ++ ".omn".toList

/-- `savName` and `omnName` are the expressions the source has (regenerated on every run) -/
theorem C15_file_name_expressions :
    Generated.Session.savNameExpr = "program_info['session_name']+'.sav'" ∧
    Generated.Session.omnNameAtSave = "self.save_file[:-4]+'.omn'" ∧
    Generated.Session.omnNameAtLoad = "self.save_file[:-4]+'.omn'" ∧
    -- and these three are the only places of the guesser where a session file is named at all
    Generated.Session.sessionNameExprs =
      [("pcfg_guesser.py", "main", "program_info['session_name']+'.sav'"),
       ("lib_guesser/pcfg_grammar.py", "restore_omen", "self.save_file[:-4]+'.omn'"),
       ("lib_guesser/pcfg_grammar.py", "omen_generate_guesses", "self.save_file[:-4]+'.omn'")] :=
  ⟨rfl, rfl, rfl, rfl⟩

/-- **different session names never share a file**: the `.omn` name is the session name followed by `.omn`, and two different
session names have different `.sav` names and different `.omn` names — for every pair of names, also names that contain dots or
end in `s`, `a`, `v`; so sessions that are quit and resumed side by side do not write each other's files -/
theorem C15_session_files_injective (s1 s2 : List Char) (h : s1 ≠ s2) :
    omnName (savName s1) = s1 ++ ".omn".toList ∧
    savName s1 ≠ savName s2 ∧ omnName (savName s1) ≠ omnName (savName s2) := by
  have hom : ∀ s : List Char, omnName (savName s) = s ++ ".omn".toList := fun s => by
    simp [omnName, savName]
  rw [hom, hom]
  exact ⟨rfl, fun e => h (List.append_cancel_right e), fun e => h (List.append_cancel_right e)⟩

example : omnName (savName "audit.ntlm".toList) = "audit.ntlm.omn".toList ∧
    omnName (savName "canvas".toList) = "canvas.omn".toList := by decide +kernel

/-- the session name the file names are built from is the name the user typed: the only assignment to
`program_info['session_name']` in `pcfg_guesser.py` is `args.session`, unchanged, and `--session` is a plain `store`
option without `type`, `const` or `dest` (regenerated from the source; with `C15_session_files_injective` two different
`--session` values never share a `.sav` / `.omn` file) -/
theorem C15_session_name_is_the_typed_name :
    Generated.CliOptions.guesserAssign.filter (fun a => a.2.1 == "session_name") =
      [("parse_command_line", "session_name", "args.session")] ∧
    ("--session", "program_info['session_name']", "None", "'store'", "None", "None") ∈ Generated.CliOptions.guesserOptions :=
  ⟨SourceTables.session_name_is_the_typed_name, by decide +kernel⟩

/-- **the guess limit only counts down and ends the run** (regenerated from the source): every statement of `CrackingSession.run` (and of
the methods it calls) whose execution depends on a test that reads `limit` - the `if limit:` blocks with their `elif` / `else` branches and
everything nested in them - is the count-down itself, a `pass`, a message on stderr, or the end of the run.  So a run with `--limit` is the run
without it stopped early: nothing written to the session files (the `omen_guess_number` option in particular) and no choice of the main
loop depends on whether a limit was given - which is what lets the session model, which has no limit, stand for limited sessions too -/
theorem C15_limit_only_counts_down_and_stops :
    ∀ k ∈ Generated.Session.limitDependentStatements, k ∈ ["break", "count-down", "pass", "print-stderr", "return"] :=
  SourceTables.limit_only_counts_down_and_stops

/-- **a session resumes on the ruleset it was started on** (regenerated from `pcfg_guesser.py`): the name stored in the save file is the
rule name the first run was given, as given (`-r group/name` included), `load_save` takes the rule name from that entry and from nowhere
else, and a ruleset whose uuid differs from the saved one is refused -/
theorem C15_resumes_on_its_own_ruleset :
    Generated.Session.saveConfigSets.filter (fun t => t.2.1 == "rule_name" || t.2.1 == "uuid") =
      [("main", "uuid", "pcfg.ruleset_info['uuid']"), ("create_save_config", "rule_name", "program_info['rule_name']")] ∧
    Generated.Session.loadSaveAssigns.filter (fun t => t.1 == "rule_name") =
      [("rule_name", "save_config.get('rule_info','rule_name')")] ∧
    Generated.Session.uuidMismatchRefuses = true :=
  SourceTables.resumes_on_its_own_ruleset

end Pcfg.C15
