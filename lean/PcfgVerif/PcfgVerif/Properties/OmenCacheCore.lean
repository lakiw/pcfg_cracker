import PcfgVerif.Lemmas.OmenCache
/-! C10, the memo table on a concrete model: a call that warms the table and calls that hit it. -/
namespace Omen

/-- 2-grams over {a, b}: after `a` come `a`,`b` (level 0) or `b` (level 1); after `b` comes `a` (level 1) -/
def exModel : Model :=
  { maxLevel := 3
    cp := [(['a'], [(0, ['a', 'b']), (1, ['b'])]), (['b'], [(1, ['a'])])] }

/-- table left behind by the first call (length 3, target level 1, table limit 4) -/
def exWarm : Cache := (exModel.fillC 4 3 [] ['a'] 1).2

example : (exModel.fillC 4 3 [] ['a'] 1).1 = some [⟨['a'], 0, 0⟩, ⟨['a'], 0, 0⟩, ⟨['a'], 1, 0⟩] := by
  decide +kernel

example : (exModel.fillC 4 3 [] ['a'] 1).1 = exModel.fill 3 ['a'] 1 :=
  (fillC_eq_fill exModel 4 3 [] ['a'] 1 (cacheOK_nil _)).1

/-- the warmed table holds the top-level key and the sub-problem keys (a success and a failure) -/
example : exWarm =
    [((['a'], 3, 1), some [⟨['a'], 0, 0⟩, ⟨['a'], 0, 0⟩, ⟨['a'], 1, 0⟩]),
     ((['a'], 2, 1), some [⟨['a'], 0, 0⟩, ⟨['a'], 1, 0⟩]),
     ((['b'], 2, 0), none)] := by decide +kernel

example : exWarm.lookup (['a'], 3, 1) = some (exModel.fill 3 ['a'] 1) := by decide +kernel

/-- the second call is answered from the table (table unchanged) and equals `fill` -/
example : exModel.fillC 4 3 exWarm ['a'] 1 = (exModel.fill 3 ['a'] 1, exWarm) := by decide +kernel

/-- a different top-level call (`b`, length 4, level 2) recurses into the key `(a, 3, 1)`, which is
answered from the warmed table: exactly one entry (its own) is added, and the result equals `fill` -/
example : exModel.fillC 4 4 exWarm ['b'] 2 =
    (exModel.fill 4 ['b'] 2, exWarm.update (['b'], 4, 2) (exModel.fill 4 ['b'] 2)) := by decide +kernel

example : exModel.fill 4 ['b'] 2 = some [⟨['b'], 1, 0⟩, ⟨['a'], 0, 0⟩, ⟨['a'], 0, 0⟩, ⟨['a'], 1, 0⟩] := by
  decide +kernel

example : (exModel.fillC 4 4 exWarm ['b'] 2).1 = exModel.fill 4 ['b'] 2 :=
  (fillC_eq_fill exModel 4 4 exWarm ['b'] 2
    (fillC_eq_fill exModel 4 3 [] ['a'] 1 (cacheOK_nil _)).2).1

end Omen
