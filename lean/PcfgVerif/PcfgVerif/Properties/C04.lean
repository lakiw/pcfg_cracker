import PcfgVerif.Properties.ExpandCore
import PcfgVerif.Lemmas.ExpandCount
/-!
# C04 — a pre-terminal expands to exactly the product of its terminal groups

`productSpec` is the list comprehension "one value from each chosen group, in structure order, every
capitalisation mask applied to the tail of what precedes it", in nested-loop order; `okSpec` says
that no lookup on any path raises.  It is a hypothesis of these theorems: what the loader builds should meet it (each
`C<n>` directly follows an `A<n>`, `C14_case_insertion`, whose values have `n` characters), but no theorem derives it
from the loader model.  That all values of a group share the file probability is
`C07_guesser_roundtrip`.  `C04_expand` gives the lines and the reported count, `C04_count_is_product_of_group_sizes`
their number, `C04_markov` the Markov loop; `C04_dispatch` is the choice between the three loops as the source makes it.
-/
namespace Pcfg.C04

/-- the lines written for a non-Markov pre-terminal are exactly the product of its groups, in order,
each combination once, and the reported count is the number of lines -/
theorem C04_expand (upper : Char → List Char) (g : EGrammar) (omen : Nat → Option (List Str))
    (pt : PT) (hpt : pt ≠ []) (hok : okSpec upper g [] pt = true) :
    createGuesses upper g omen pt none =
      ⟨productSpec upper g [] pt, (productSpec upper g [] pt).length, false⟩ :=
  (recGuesses_emits upper g omen pt [] hpt hok).none

/-- the loop `_recursive_guesses` runs for an `M` variable over the strings `gs` its OMEN level yields writes exactly
`gs`, in generator order (`Omen.level_exact` says which strings these are), and the count is their number -/
theorem C04_markov (gs : List Str) : omenLoop gs none = ⟨gs, gs.length, false⟩ := (omenLoop_emits gs).none

/-- **how many guesses a pre-terminal has**: the number `create_guesses` returns and the number of lines it writes are both the product
of the sizes of the chosen groups (one factor per position, a mask group counting its masks) - as many as there are combinations of
one value per position, where `productSpec` by itself would pass over a combination whose mask cannot be applied -/
theorem C04_count_is_product_of_group_sizes (upper : Char → List Char) (g : EGrammar) (omen : Nat → Option (List Str))
    (pt : PT) (hpt : pt ≠ []) (hok : okSpec upper g [] pt = true) :
    (createGuesses upper g omen pt none).count = (groupSizes g pt).foldr (· * ·) 1 ∧
    (createGuesses upper g omen pt none).out.length = (groupSizes g pt).foldr (· * ·) 1 := by
  rw [C04_expand upper g omen pt hpt hok]
  exact ⟨productSpec_length upper g pt [] hok, productSpec_length upper g pt [] hok⟩

/-- non-vacuity: two words, two masks, two digits: 2 x 2 x 2 -/
example : groupSizes ExpandExample.gr ExpandExample.pt0 = [2, 2, 2] := by decide +kernel

/-- every pre-terminal whose lookups succeed produces at least one guess -/
theorem C04_nonempty (upper : Char → List Char) (g : EGrammar) (pt : PT)
    (hok : okSpec upper g [] pt = true) : 0 < (productSpec upper g [] pt).length :=
  productSpec_pos upper g pt [] hok

/-- dispatch of `_recursive_guesses` on the first letter of the variable name -/
theorem C04_dispatch : Generated.Expand.isMarkov 'M' = true ∧ Generated.Expand.isCase 'C' = true ∧
    (∀ c, c ≠ 'M' → Generated.Expand.isMarkov c = false) ∧ (∀ c, c ≠ 'C' → Generated.Expand.isCase c = false) ∧
    Generated.Expand.maskKeeps 'L' = true ∧ (∀ c, c ≠ 'L' → Generated.Expand.maskKeeps c = false) := by
  simp [Generated.Expand.isMarkov, Generated.Expand.isCase, Generated.Expand.maskKeeps, CmpOp.chr]

/-- non-vacuity: `A2 C2 D1` with two words, two masks, two digits gives the eight combinations -/
example : okSpec ExpandExample.up ExpandExample.gr [] ExpandExample.pt0 = true ∧
    (productSpec ExpandExample.up ExpandExample.gr [] ExpandExample.pt0).length = 8 := by decide +kernel

end Pcfg.C04
