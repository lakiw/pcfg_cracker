import PcfgVerif.Properties.SourceTables.PrintSites
import PcfgVerif.Properties.SourceTables.Session
import PcfgVerif.Properties.ExpandCore
import PcfgVerif.Lemmas.ExpandLemmas
/-!
# C09 — standard output is exactly the guess stream, and `--limit` is exact

Static half: the table of every output call site is regenerated from the source on each run; the
only one that does not write to `sys.stderr` must be the `print(guess)` inside
`PcfgGrammar.print_guess`.  Dynamic half (`--limit`): the limit is a budget counted down by the session loop and,
inside it, by the loops of one pre-terminal or of one Markov level; each of these writes the first `n` lines of what it
writes without a limit (`C09_limit_session`, `C09_limit_preterminal`, `C09_limit_markov`).  The tests and unit costs
they rest on are those of the source today (`C09_limit_tests`, `C09_unit_costs`), and the limit does nothing but count
down and stop (`C09_limit_only_counts_down_and_stops`).  That each guess is one line on the real pipe is left to the
harness, which compares the program's standard output line by line with the guesses generated in process.
-/
namespace Pcfg.C09

/-- in everything `pcfg_guesser.py` imports, the only output call that can reach stdout is
`print_guess` (banner, loaders, session, status reports, error paths all name `sys.stderr`) -/
theorem C09_only_print_guess_writes_stdout :
    Generated.PrintSites.guesserNonStderr =
      [("lib_guesser/pcfg_grammar.py", "PcfgGrammar.print_guess", "stdout")] :=
  SourceTables.only_print_guess_writes_stdout

/-- the limit tests of the source: the plain-value leaf stops when the remaining budget `== 0`, every other loop
(mask leaf, inner loops, Markov level, session loop, honeywords) when it is `<= 0` -/
theorem C09_limit_tests (l : Int) :
    Generated.Expand.cLeafHit l = decide (l ≤ 0) ∧ Generated.Expand.cRecHit l = decide (l ≤ 0) ∧
    Generated.Expand.pLeafHit l = (l == 0) ∧ Generated.Expand.pRecHit l = decide (l ≤ 0) ∧
    Generated.Expand.omenHit l = decide (l ≤ 0) ∧ Generated.Expand.sessionHit l = decide (l ≤ 0) ∧
    Generated.Expand.sessionOmenHit l = decide (l ≤ 0) ∧ Generated.Expand.honeyHit l = decide (l ≤ 0) :=
  ⟨Frag.cLeafHit_eq l, Frag.cRecHit_eq l, Frag.pLeafHit_eq l, Frag.pRecHit_eq l, Frag.omenHit_eq l,
    Frag.sessionHit_eq l, rfl, rfl⟩

/-- every printed guess is counted once and costs one unit of the limit -/
theorem C09_unit_costs :
    Generated.Expand.cLeafCount = 1 ∧ Generated.Expand.cLeafDec = 1 ∧ Generated.Expand.pLeafCount = 1 ∧
    Generated.Expand.pLeafDec = 1 ∧ Generated.Expand.omenCount = 1 ∧ Generated.Expand.omenDec = 1 :=
  ⟨Frag.cLeafCount_eq, Frag.cLeafDec_eq, Frag.pLeafCount_eq, Frag.pLeafDec_eq, Frag.omenCount_eq, Frag.omenDec_eq⟩

/-- `--limit n` inside one pre-terminal: exactly the first `n` lines of its unlimited expansion, and
the returned count is `min n total` (also when `n` falls inside a group or inside a mask loop) -/
theorem C09_limit_preterminal (upper : Char → List Char) (g : EGrammar) (omen : Nat → Option (List Str))
    (pt : PT) (hpt : pt ≠ []) (hok : okSpec upper g [] pt = true) (n : Nat) (hn : 1 ≤ n) :
    createGuesses upper g omen pt (some (n : Int)) =
      ⟨(productSpec upper g [] pt).take n, min n (productSpec upper g [] pt).length, false⟩ :=
  (recGuesses_emits upper g omen pt [] hpt hok).some n hn

/-- the same inside a Markov level -/
theorem C09_limit_markov (gs : List Str) (n : Nat) (hn : 1 ≤ n) :
    omenLoop gs (some (n : Int)) = ⟨gs.take n, min n gs.length, false⟩ :=
  (omenLoop_emits gs).some n hn

/-- across the session loop: whatever sequence of pre-terminals the queue pops, `--limit N` writes the
first `N` lines of the unlimited run (all of them when there are fewer) - for a generator that honours a limit exactly
(`ExactLimit gen`: asked of every pre-terminal, the empty one included, on which the model's `createGuesses` raises; so
`gen` stands for a generator that never raises, not for `createGuesses` itself, which is exact where the lookups succeed:
`C09_limit_preterminal`; `sessionLoop_limit_on` asks it of the pre-terminals popped only) -/
theorem C09_limit_session (gen : PT → Option Int → ERes) (hgen : ExactLimit gen)
    (pts : List PT) (n : Nat) (hn : 1 ≤ n) :
    sessionLoop gen pts (some (n : Int)) = (sessionLoop gen pts none).take n ∧
    (sessionLoop gen pts (some (n : Int))).length = min n (sessionLoop gen pts none).length := by
  have h := sessionLoop_limit_on gen pts (fun pt _ => (hgen pt).2) n hn
  exact ⟨h, by rw [h, List.length_take]⟩

/-- non-vacuity: limit 3 falls inside the mask loop of `A2 C2 D1` -/
example : (createGuesses ExpandExample.up ExpandExample.gr (fun _ => none) ExpandExample.pt0 (some 3)).out =
    (productSpec ExpandExample.up ExpandExample.gr [] ExpandExample.pt0).take 3 :=
  congrArg ERes.out (C09_limit_preterminal _ _ _ _ (by decide) (by decide) 3 (by decide))

/-- **the guess limit only counts down and ends the run** (regenerated from the source): every statement of `CrackingSession.run` (and of
the methods it calls) whose execution depends on a test that reads `limit` - the `if limit:` blocks with their `elif` / `else` branches and
everything nested in them - is the count-down itself, a message on stderr, or the end of the run.  So a run with `--limit` is the run
without it stopped early: nothing written to the session files (the `omen_guess_number` option in particular) and no choice of the main
loop depends on whether a limit was given - which is what lets the session model, which has no limit, stand for limited sessions too -/
theorem C09_limit_only_counts_down_and_stops :
    ∀ k ∈ Generated.Session.limitDependentStatements, k ∈ ["break", "count-down", "pass", "print-stderr", "return"] :=
  SourceTables.limit_only_counts_down_and_stops

end Pcfg.C09
