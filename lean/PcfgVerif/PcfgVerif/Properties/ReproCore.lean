import PcfgVerif.Lemmas.ReproLemmas
/-! C03: a concrete ruleset and the password `Pass12` for the capitalisation, derivation and mass links. -/
namespace Pcfg

namespace ReproExample

def up (c : Char) : List Char := [c.toUpper]
def isUp (c : Char) : Bool := c.isUpper

def g0 : EGrammar :=
  [("A4", [[['p','a','s','s'], ['w','o','r','d']]]),
   ("C4", [[['L','L','L','L'], ['U','L','L','L']]]),
   ("D2", [[['1','2']]])]

def word : Piece := .alpha "A4" 0 "C4" 0 ['P','a','s','s'] ['p','a','s','s']
def digits : Piece := .plain "D2" 0 ['1','2']

theorem word_inGrammar : word.InGrammar up isUp g0 := by
  refine ⟨⟨'A', [['p','a','s','s'], ['w','o','r','d']], by decide, by decide, by decide, by decide,
    by decide⟩, ⟨[['L','L','L','L'], ['U','L','L','L']], by decide, by decide, by decide, by decide⟩, ?_⟩
  simp only [TamePair]
  decide

theorem digits_inGrammar : digits.InGrammar up isUp g0 :=
  ⟨'D', [['1','2']], by decide, by decide, by decide, by decide, by decide⟩

/-- `Pass12` is a guess of the pre-terminal `A4[0] C4[0] D2[0]`: from the theorem -/
theorem pass12_mem : "Pass12".toList ∈ productSpec up g0 [] [("A4", 0), ("C4", 0), ("D2", 0)] :=
  password_in_productSpec up isUp g0 [word, digits] []
    (List.forall_mem_cons.mpr ⟨word_inGrammar, List.forall_mem_singleton.mpr digits_inGrammar⟩)
    (List.forall_mem_cons.mpr ⟨List.cons_ne_nil _ _, List.forall_mem_singleton.mpr trivial⟩)

example : "Pass12".toList ∈ productSpec up g0 [] [("A4", 0), ("C4", 0), ("D2", 0)] := by decide

/-- the conclusion of `applyMask_maskOf` for `word`, by evaluation (its hypothesis `TamePair` is the last part of `word_inGrammar`) -/
example : applyMask up ['p','a','s','s'] (maskOf isUp ['P','a','s','s']) Generated.Expand.maskStart
    = some ['P','a','s','s'] := by decide

/-- why `WordNonEmpty` is needed: a ruleset with an empty word.  Every piece is `InGrammar`, but the
mask step for the empty word takes `cur_guess[:-0] = ''` and so drops the `12` generated before it:
the only guess of `D2[0] A0[0] C0[0]` is the empty string. -/
def g1 : EGrammar := [("A0", [[[]]]), ("C0", [[[]]]), ("D2", [[['1','2']]])]
def emptyWord : Piece := .alpha "A0" 0 "C0" 0 [] []

theorem emptyWord_inGrammar : emptyWord.InGrammar up isUp g1 :=
  ⟨⟨'A', [[]], by decide, by decide, by decide, by decide, by decide⟩,
   ⟨[[]], by decide, by decide, by decide, by decide⟩, trivial⟩

theorem digits_inGrammar1 : digits.InGrammar up isUp g1 :=
  ⟨'D', [['1','2']], by decide, by decide, by decide, by decide, by decide⟩

theorem counterexample_empty_word :
    ¬ (([] : Str) ++ [digits, emptyWord].flatMap Piece.text ∈
        productSpec up g1 [] ([digits, emptyWord].flatMap Piece.pt)) := by decide

example : productSpec up g1 [] ([digits, emptyWord].flatMap Piece.pt) = [[]] := by decide

/-- mass: two columns of mass 1 (1/4·2 + 1/2·1 and 1/3·3): two pre-terminals, total mass 1 -/
def cols0 : List (List (Rat × Nat)) := [[(1/4, 2), (1/2, 1)], [(1/3, 3)]]

example : colMass [(1/4, 2), (1/2, 1)] = 1 := by decide +kernel
example : colMass [(1/3, 3)] = 1 := by decide +kernel
example : allIdx (cols0.map fun c => c.map (·.1)) = [[0, 0], [1, 0]] := by decide +kernel
example : ((allIdx (cols0.map fun c => c.map (·.1))).map (nodeMass cols0)).sum = 1 := by decide +kernel
example : ((allIdx (cols0.map fun c => c.map (·.1))).map (nodeMass cols0)).sum
    = (cols0.map colMass).prod := mass_product cols0
example : (1/5 : Rat) * ((allIdx (cols0.map fun c => c.map (·.1))).map (nodeMass cols0)).sum = 1/5 :=
  by rw [mass_product]; decide +kernel
/-- a column list whose masses are not 1 (3/4 and 2/3): the sum is the product 1/2 -/
example : ((allIdx ([[((1:Rat)/4, 1), (1/2, 1)], [(1/3, 2)]].map fun c => c.map (·.1))).map
    (nodeMass [[(1/4, 1), (1/2, 1)], [(1/3, 2)]])).sum = 1/2 := by decide +kernel

end ReproExample

end Pcfg

