import PcfgVerif.Properties.ReproCore
import PcfgVerif.Properties.PQCore
import PcfgVerif.Lemmas.TrainedListed
import PcfgVerif.Properties.ScoreExample
import PcfgVerif.Lemmas.BaseLoader
import PcfgVerif.Lemmas.TrainedLoads
/-!
# C03 — every supported training password is reproduced by the trained grammar

The end-to-end claim is a chain of links, each proved on its own model:
C05 (`C05_tiling`: the segments tile the password; `C05_alpha`, `RecOK` in `parse_labelled`: alpha words are stored
lower-cased with a mask of the same length) → C06 (`C06_each_once`: every segment / mask / structure is an entry of its list) →
C07 (`C07_guesser_roundtrip`: the loader returns those values) → C14 (`C14_case_insertion`: a `C<n>`
directly after every `A<n>`) → the three links below (capitalisation, derivation, probability mass)
→ C04 (`C04_expand`: the pre-terminal prints `productSpec`) → C02 (`C02_exactly_once`: that
pre-terminal is emitted).  The whole chain is exercised on the real pipeline by the harness.
Domain clause of the property: `TamePair` (upper/lower case mapping one-to-one).

The links on their own models: `C03_capitalisation`, `C03_derivation`, `C03_preterminal_emitted`, `C03_mass`.  Composed on the
detector model: `C03_reproduced` (listing as a hypothesis), `C03_trained_reproduced` (listing discharged from the trainer model),
`C03_trained_end_to_end` (the guesser's grammar is `Trainer.viewOf` of the same counters).  That `viewOf` is what the loader
models return on the files the trainer model writes: `C03_view_columns_are_loaded`, `C03_view_bases_are_loaded`,
`C03_trained_ruleset_loads`.  That a pre-terminal `(reps, idx)` of `viewOf` is a node of the queue's grid is not a theorem:
the harness runs the whole pipeline.  The three links on a concrete ruleset and `Pass12`: `Properties/ReproCore.lean`.
-/
namespace Pcfg.C03

/-- capitalisation: applying the recorded mask to the stored lower-cased word gives back the original -/
theorem C03_capitalisation (upper : Char → List Char) (isUpper : Char → Bool) (orig lw : Str)
    (h : TamePair upper isUpper orig lw) :
    applyMask upper lw (maskOf isUpper orig) Generated.Expand.maskStart = some orig :=
  applyMask_maskOf upper isUpper orig lw h

/-- derivation: a password whose segments are all in the ruleset's lists (words lower-cased in the
alpha list, their masks in the mask list of the same length) is one of the guesses of the
pre-terminal formed by those groups — with its original capitalisation, digits, symbols, spaces; no word may be empty
(`ReproExample.counterexample_empty_word`) -/
theorem C03_derivation (upper : Char → List Char) (isUpper : Char → Bool) (g : EGrammar)
    (pieces : List Piece) (h : ∀ p ∈ pieces, p.InGrammar upper isUpper g)
    (hne : ∀ p ∈ pieces, p.WordNonEmpty) :
    pieces.flatMap Piece.text ∈ productSpec upper g [] (pieces.flatMap Piece.pt) := by
  have := password_in_productSpec upper isUpper g pieces [] h hne
  simpa using this

/-- emission (C02): when the queue has run empty every pre-terminal of the grid has been popped, whatever the ties -/
theorem C03_preterminal_emitted {P : Type} [Inhabited P] (A : PAlg P) (g : Grid P) (hwf : WF A.toPOps g)
    (s : PQState) (h : Reach A.toPOps g (initNodes g) s) (hq : s.queue = []) (v : Node)
    (hv : v ∈ allNodes g) : v ∈ s.popped :=
  ((reach_init A g hwf s h).2.2.2.1 hq).symm.subset hv

/-- mass: when every list sums to 1 (`C06_sum_one`), a structure contributes, summed over all its pre-terminals, its own
probability `bp` (exact arithmetic); the language then has the mass of the base-structure list -/
theorem C03_mass (bp : Rat) (cols : List (List (Rat × Nat))) (h : ∀ c ∈ cols, colMass c = 1) :
    bp * ((allIdx (cols.map fun c => c.map (·.1))).map (nodeMass cols)).sum = bp := by
  rw [mass_product, prod_ones _ (List.forall_mem_map.mpr h), Rat.mul_one]

/-- summed over all pre-terminals of a structure, probability × number of guesses is the product of the column masses -/
theorem C03_mass_product (cols : List (List (Rat × Nat))) :
    ((allIdx (cols.map fun c => c.map (·.1))).map (nodeMass cols)).sum = (cols.map colMass).prod :=
  mass_product cols

/-- **end to end** (the links above composed with C13's promise, `score_promise`, which rests on `parse_labelled`; on the detector model): a
password whose parse is supported and has no e-mail / website segment, whose segments — words lower-cased, masks, digits,
symbols, years, keyboard walks, context strings — and whose base structure are listed in the ruleset
(`AllListed`: what C06 guarantees for everything the parser tallied), is one of the guesses of a
pre-terminal of a guesser's grammar that agrees with the scorer's view of the same lists (`Agree`) — with its original
capitalisation and every non-ASCII letter, for every Unicode environment with length-preserving lower-casing; domain clause
`CaseInvAll` (one-to-one case mapping on the password), code points that are scalar values.  Probabilities: any commutative
monoid without zero divisors.  (Emission of a pre-terminal: `C03_preterminal_emitted`, on the queue model.) -/
theorem C03_reproduced {P : Type} (M : Detect.CMon P)
    (hnzd : ∀ a b, a ≠ M.zero → b ≠ M.zero → M.mul a b ≠ M.zero) (hone : M.one ≠ M.zero)
    (U : Detect.UEnv) (upper : Char → List Char) (cfg : Detect.MWCfg) (t : Detect.MWTable) (pw : CPs)
    (hne : pw ≠ []) (hl : Detect.LenPres U pw) (hsc : Detect.ScalarCPs pw)
    (hcase : Detect.CaseInvAll U upper pw)
    (g : Detect.ScoreG P) (V : Detect.GView P) (hag : Detect.Agree M.zero g V)
    (he : (Detect.parse U cfg t pw).emails = []) (hw : (Detect.parse U cfg t pw).websites = [])
    (hs : (Detect.parse U cfg t pw).supported = true)
    (hin : Detect.AllListed M.zero g (Detect.parse U cfg t pw)) :
    ∃ (reps : List String) (bp : P) (idx : List Nat), (reps, bp) ∈ V.bases ∧ idx.length = reps.length ∧
      Detect.toStr pw ∈ productSpec upper V.E [] (Detect.mkPT reps idx) := by
  -- everything listed: the score is not zero; the promise (C13) gives the pre-terminal
  obtain ⟨reps, bp, idx, hb, hlen, hmem, _⟩ :=
    Detect.score_promise M (fun _ _ => true) (fun _ _ => true) M.one U upper cfg t pw hne hl hsc hcase g V hag false
      (Detect.score_ne_zero_of_listed M hnzd hone _ _ g _ false he hw hs hin)
  exact ⟨reps, bp, idx, hb, hlen, hmem⟩

/-- **C03 for the trainer's own output, no listing hypothesis** (`Model/Trainer.lean`: the counters of the whole list;
`Lemmas/TrainedListed.lean`): take any training list `pws`, train on it (pass 1 the multi-word table, pass 2 the counters), write every
counter through `calculate_probabilities` with a coverage in (0, 1] (`scoreGOf`: one list per category and length, `grammar.txt`
with the Markov pseudo-count).  Then every password *of the list* whose parse is supported and has no e-mail / website part is one of
the guesses of a pre-terminal of a guesser grammar that agrees with those lists — the hypothesis `AllListed` of `C03_reproduced` is
discharged from the trainer model: each tally of the password's own parse is at least one, so its written probability
count/total is not zero. -/
theorem C03_trained_reproduced (U : Detect.UEnv) (upper : Char → List Char) (cfg : Detect.MWCfg) (pws : List CPs)
    (pw : CPs) (hmem : pw ∈ pws) (cov : Rat) (h0 : 0 < cov) (h1 : cov ≤ 1)
    (hne : pw ≠ []) (hl : Detect.LenPres U pw) (hsc : Detect.ScalarCPs pw) (hcase : Detect.CaseInvAll U upper pw)
    (V : Detect.GView Rat)
    (hag : Detect.Agree 0 (Trainer.scoreGOf cov pws.length (Trainer.train U cfg pws)) V)
    (he : (Detect.parse U cfg (Trainer.pass1 U cfg pws) pw).emails = [])
    (hw : (Detect.parse U cfg (Trainer.pass1 U cfg pws) pw).websites = [])
    (hs : (Detect.parse U cfg (Trainer.pass1 U cfg pws) pw).supported = true) :
    ∃ (reps : List String) (bp : Rat) (idx : List Nat), (reps, bp) ∈ V.bases ∧ idx.length = reps.length ∧
      Detect.toStr pw ∈ productSpec upper V.E [] (Detect.mkPT reps idx) :=
  C03_reproduced ratCMon (fun a b ha hb h => (Rat.mul_eq_zero.mp h).elim ha hb) (by decide) U upper cfg _ pw hne hl hsc hcase _ V hag
    he hw hs (Trainer.trained_all_listed U cfg pws pw hmem cov h0 h1 hs)

/-- non-vacuity of the listing theorem: the ASCII environment, the list `Pass12!`, `abcd`, coverage 1/2 — the parse of `Pass12!`
(`A4D2O1`) is supported and everything in it is listed by the grammar trained on the two passwords -/
example : Detect.AllListed 0
    (Trainer.scoreGOf (1/2) 2 (Trainer.train Detect.asciiC {} [cpsOfString "Pass12!", cpsOfString "abcd"]))
    (Detect.parse Detect.asciiC {} (Trainer.pass1 Detect.asciiC {} [cpsOfString "Pass12!", cpsOfString "abcd"])
      (cpsOfString "Pass12!")) :=
  Trainer.trained_all_listed Detect.asciiC {} [cpsOfString "Pass12!", cpsOfString "abcd"] _ (by decide) (1/2)
    (by decide +kernel) (by decide +kernel) (by decide +kernel)

/-- **C03 inside the model, from the training list to a pre-terminal that prints the password, with no hypothesis about the ruleset**
(`Lemmas/TrainedAgree.lean`; that the queue emits that pre-terminal is not stated, see the file header).
`Trainer.viewOf` is the guesser's grammar of the trained ruleset: every written list cut into its maximal runs of equal probability
(the groups `_load_from_file` forms, `C07_guesser_roundtrip`), under the guesser's variable names, and every line of `grammar.txt`
tokenised by the guesser's own tokeniser with `C<n>` inserted after `A<n>` (`splitStructure`, `insertCase`: the loader model of C14).
`Agree` between that grammar and the scorer's lists is a theorem (`Trainer.train_agree`): a value the scorer finds with a
non-zero probability lies in a run of exactly that probability; tokenising the joined labels gives the labels back; every mask filed
under length n has n letters.  So: every password of the training list whose parse is supported and has no e-mail / website part is a
guess of a pre-terminal of the grammar the guesser loads — for every list, every coverage in (0, 1], every Unicode environment with
length-preserving lower-casing; remaining hypotheses are `pw ≠ []`, `ScalarCPs pw` (code points that are scalar values), the
domain clause `CaseInvAll` and that the tokeniser's `isalpha` is true on `A`–`Z` and false on `0`–`9`. -/
theorem C03_trained_end_to_end (U : Detect.UEnv) (upper : Char → List Char) (cfg : Detect.MWCfg) (pws : List CPs)
    (pw : CPs) (hmem : pw ∈ pws) (cov : Rat) (h0 : 0 < cov) (h1 : cov ≤ 1)
    (isAlpha : Nat → Bool) (hcap : ∀ c, 65 ≤ c → c ≤ 90 → isAlpha c = true) (hdig : ∀ c, 48 ≤ c → c ≤ 57 → isAlpha c = false)
    (hne : pw ≠ []) (hl : Detect.LenPres U pw) (hsc : Detect.ScalarCPs pw) (hcase : Detect.CaseInvAll U upper pw)
    (he : (Detect.parse U cfg (Trainer.pass1 U cfg pws) pw).emails = [])
    (hw : (Detect.parse U cfg (Trainer.pass1 U cfg pws) pw).websites = [])
    (hs : (Detect.parse U cfg (Trainer.pass1 U cfg pws) pw).supported = true) :
    ∃ (reps : List String) (bp : Rat) (idx : List Nat),
      (reps, bp) ∈ (Trainer.viewOf isAlpha cov pws.length (Trainer.train U cfg pws)).bases ∧ idx.length = reps.length ∧
      Detect.toStr pw ∈ productSpec upper (Trainer.viewOf isAlpha cov pws.length (Trainer.train U cfg pws)).E [] (Detect.mkPT reps idx) :=
  C03_trained_reproduced U upper cfg pws pw hmem cov h0 h1 hne hl hsc hcase _
    (Trainer.train_agree isAlpha hcap hdig U cfg pws cov pws.length) he hw hs

/-- non-vacuity of the end-to-end theorem: ASCII environment, the list `Ab1`, `zz9`, coverage 1/2 — every hypothesis is discharged
(by kernel evaluation where it is a computation), so `Ab1` is a guess of the grammar trained on the two passwords -/
example : ∃ (reps : List String) (bp : Rat) (idx : List Nat),
    (reps, bp) ∈ (Trainer.viewOf Detect.asciiU.isAlpha (1/2) 2
      (Trainer.train Detect.asciiU {} [ScoreB.Ex.pwEx, [122, 122, 57]])).bases ∧ idx.length = reps.length ∧
    Detect.toStr ScoreB.Ex.pwEx ∈ productSpec ScoreB.Ex.upEx (Trainer.viewOf Detect.asciiU.isAlpha (1/2) 2
      (Trainer.train Detect.asciiU {} [ScoreB.Ex.pwEx, [122, 122, 57]])).E [] (Detect.mkPT reps idx) := by
  -- neither password has a run of letters long enough for the multi-word table, so the parse is `ScoreB.Ex.parse_ex`
  have hp : Detect.parse Detect.asciiU {} (Trainer.pass1 Detect.asciiU {} [ScoreB.Ex.pwEx, [122, 122, 57]]) ScoreB.Ex.pwEx = _ :=
    (show Trainer.pass1 Detect.asciiU {} [ScoreB.Ex.pwEx, [122, 122, 57]] = [] by decide +kernel) ▸ ScoreB.Ex.parse_ex
  exact C03_trained_end_to_end Detect.asciiU ScoreB.Ex.upEx {} [ScoreB.Ex.pwEx, [122, 122, 57]] ScoreB.Ex.pwEx (by decide) (1/2)
    (by decide +kernel) (by decide +kernel) Detect.asciiU.isAlpha Detect.asciiU_isAlpha_cap Detect.asciiU_isAlpha_digit
    (by decide) (Detect.asciiU_lenPres _) ScoreB.Ex.scalar_ex ScoreB.Ex.caseInv_ex
    (by rw [hp]) (by rw [hp]) (by rw [hp])

/-- **the columns of `Trainer.viewOf` (`Trainer.colOf`) are what the loader model returns on the trainer's files**: write the list of
a counter (`calculate_probabilities`, exact rationals) with any printing of probabilities that the parser inverts, load the text with the
model of `_load_from_file`; the groups returned are exactly `Trainer.colOf` — the maximal runs of equal probability (uniqueness of that
decomposition, `Trainer.runs_unique`, on top of `C07_guesser_roundtrip`).  Hypotheses: clean values (what `check_valid` admits,
`C07_accepted_is_clean`), clean probability text, no probability equal to the loader's start value `neg1` (−1 in the source). -/
theorem C03_view_columns_are_loaded (parseP : CPs → Option Rat) (showP : Rat → CPs) (neg1 : Rat)
    (hround : ∀ p, parseP (showP p) = some p) (t : Detect.MWTable)
    (hclean : ∀ it ∈ t, CleanValue it.1) (hshow : ∀ p, CleanProb (showP p)) (hsent : ∀ it ∈ Trainer.listOf t, it.2 ≠ neg1) :
    ∃ gs, loadFromFile parseP (fun a b => a == b) neg1 (writeFile ((Trainer.listOf t).map fun it => (it.1, showP it.2))) = some gs ∧
      gs.map (fun g => (g.values, g.prob)) = Trainer.colOf t :=
  Trainer.listOf_loads parseP showP hround hshow neg1 t hclean hsent

/-- **the base structures of `Trainer.viewOf` are what the base-structure loader model returns on the trainer's `grammar.txt`**
(`_load_base_structures`, default flags, text-mode reading with universal newlines): every line tokenises — each key of the trainer's
base-structure counter is a concatenation of section labels (`Trainer.train_baseok`, an invariant over the whole training run),
`M` is one letter — and the loaded list, replacement by replacement, is `viewBases`.  Hypotheses: printing and parsing a probability
round-trip and the written fields are clean; every training password is non-empty with length-preserving lower-casing; the
tokeniser's `isalpha` is true on `A`–`Z` and false on `0`–`9`. -/
theorem C03_view_bases_are_loaded (parseP : CPs → Option Rat) (showP : Rat → CPs) (isAlpha : Nat → Bool)
    (hcap : ∀ c, 65 ≤ c → c ≤ 90 → isAlpha c = true) (hdig : ∀ c, 48 ≤ c → c ≤ 57 → isAlpha c = false)
    (hround : ∀ p, parseP (showP p) = some p) (U : Detect.UEnv) (cfg : Detect.MWCfg) (pws : List CPs)
    (hpw : ∀ pw ∈ pws, pw ≠ [] ∧ Detect.LenPres U pw) (cov : Rat)
    (hclean : ∀ it ∈ Trainer.baseList cov pws.length (Trainer.train U cfg pws).base, CleanItem (it.1, showP it.2)) :
    ∃ bs, loadBase parseP Trainer.ratArith isAlpha false
        (writeFile ((Trainer.baseList cov pws.length (Trainer.train U cfg pws).base).map fun it => (it.1, showP it.2))) = some bs ∧
      bs.map (fun b => (b.replacements.map Trainer.strOf, b.prob)) =
        (Trainer.viewOf isAlpha cov pws.length (Trainer.train U cfg pws)).bases :=
  Trainer.loadBase_returns_viewBases parseP showP isAlpha hround cov pws.length _ hclean
    (Trainer.baseList_keys_split isAlpha hcap hdig cov pws.length _ (Trainer.train_baseok U cfg pws hpw))

/-- the seven terminal sections of the ruleset trained on `pws`, in the order `_load_terminals` reads them, each with an arbitrary
previous content of its folder (`Years/1.txt` and `Context/1.txt` are the variables `Y1`, `X1`) -/
def trainedSections (U : Detect.UEnv) (cfg : Detect.MWCfg) (pws : List CPs) (olds : Char → List (String × CPs)) :
    List (Char × Detect.LenCtr × List (String × CPs)) :=
  let c := Trainer.train U cfg pws
  [('A', c.alpha, olds 'A'), ('C', c.masks, olds 'C'), ('D', c.digits, olds 'D'), ('O', c.other, olds 'O'),
   ('K', c.keyboard, olds 'K'), ('Y', [(1, c.years)], olds 'Y'), ('X', [(1, c.context)], olds 'X')]

/-- **the terminal files of a trained ruleset load, file names and folders included**: `save_indexed_counters`
writes one file `<n>.txt` per length (whatever the folder held), `create_filename_list` lists them, `_load_from_multiple_files` reads
each section into the shared dict (`Model/LoadMulti.lean`, `Lemmas/TrainedFolder.lean`), `_load_from_file` cuts each list into runs
(`Trainer.loader_returns_runs`).  All seven sections load, and the variable `<letter><n>` of every (section, length) holds exactly the
column `Trainer.colOf` of that Counter — by definition the entry `Trainer.viewCols` lists under that name.  Hypotheses: print/parse
round trip, clean values and probability text. -/
theorem C03_trained_ruleset_loads (parseP : CPs → Option Rat) (showP : Rat → CPs) (hround : ∀ p, parseP (showP p) = some p)
    (hshow : ∀ p, CleanProb (showP p)) (U : Detect.UEnv) (cfg : Detect.MWCfg) (pws : List CPs) (olds : Char → List (String × CPs))
    (hclean : ∀ s ∈ trainedSections U cfg pws olds, ∀ e ∈ s.2.1, ∀ it ∈ e.2, CleanValue it.1) :
    ∃ g', Trainer.loadAll ((trainedSections U cfg pws olds).map fun s => Trainer.trainedSect parseP showP s.1 s.2.1 s.2.2) [] = some g' ∧
      ∀ s ∈ trainedSections U cfg pws olds, ∀ e ∈ s.2.1, ∃ gs, LoadMulti.lookup g' (Detect.lbl s.1 e.1) = some gs ∧
        gs.map (fun g => (g.values, g.prob)) = Trainer.colOf e.2 := by
  refine Trainer.trained_terminals_load parseP showP hround hshow _ (by simp [trainedSections]) ?_ hclean
  intro s hs
  simp only [trainedSections, List.mem_cons, List.not_mem_nil, or_false] at hs
  rcases hs with rfl | rfl | rfl | rfl | rfl | rfl | rfl
  · exact Trainer.train_keys_nodup U cfg (·.alpha) (·.alphas) (fun _ _ => rfl) rfl pws
  · exact Trainer.train_keys_nodup U cfg (·.masks) (·.masks) (fun _ _ => rfl) rfl pws
  · exact Trainer.train_keys_nodup U cfg (·.digits) (·.digits) (fun _ _ => rfl) rfl pws
  · exact Trainer.train_keys_nodup U cfg (·.other) (·.others) (fun _ _ => rfl) rfl pws
  · exact Trainer.train_keys_nodup U cfg (·.keyboard) (·.walks) (fun _ _ => rfl) rfl pws
  · simp
  · simp

end Pcfg.C03
