import PcfgVerif.Lemmas.GridAdopt
/-! Non-vacuity of C01, C02 (and, restored, of C08: `PQRestore`): a concrete 2×2 grid with an exact parent tie

`g0` has one base structure of probability 8 and two positions with group probabilities `[4, 2]`.
Node probabilities: `(0,0) ↦ 128`, `(1,0) ↦ 64`, `(0,1) ↦ 64`, `(1,1) ↦ 32`; both parents of `(1,1)`
have probability 64, so the position tie-break decides (`(0,1)` adopts it). -/
namespace Pcfg
namespace Example

def g0 : Grid Nat := [⟨8, [[4, 2], [4, 2]]⟩]

theorem wf0 : WF natAlg.toPOps g0 := by
  unfold WF WFStruct; decide

example : nodeProb natAlg.toPOps g0 ⟨0, [1, 0]⟩ = 64 ∧ nodeProb natAlg.toPOps g0 ⟨0, [0, 1]⟩ = 64 := by
  decide

def final0 : PQState := ⟨[], [⟨0, [0, 0]⟩, ⟨0, [1, 0]⟩, ⟨0, [0, 1]⟩, ⟨0, [1, 1]⟩]⟩

/-- a complete run from the initial queue (the tie `(1,0)` / `(0,1)` resolved one way) -/
theorem reach0 : Reach natAlg.toPOps g0 (initNodes g0) final0 := by
  have h0 : Reach natAlg.toPOps g0 (initNodes g0) ⟨initNodes g0, []⟩ := Reach.init
  have h1 := Reach.step (x := ⟨0, [0, 0]⟩) h0 (by decide)
  have h2 := Reach.step (x := ⟨0, [1, 0]⟩) h1 (by decide)
  have h3 := Reach.step (x := ⟨0, [0, 1]⟩) h2 (by decide)
  have h4 := Reach.step (x := ⟨0, [1, 1]⟩) h3 (by decide)
  exact h4

/-- the other resolution of the tie is reachable as well -/
theorem reach0' : Reach natAlg.toPOps g0 (initNodes g0)
    ⟨[], [⟨0, [0, 0]⟩, ⟨0, [0, 1]⟩, ⟨0, [1, 0]⟩, ⟨0, [1, 1]⟩]⟩ := by
  have h0 : Reach natAlg.toPOps g0 (initNodes g0) ⟨initNodes g0, []⟩ := Reach.init
  have h1 := Reach.step (x := ⟨0, [0, 0]⟩) h0 (by decide)
  have h2 := Reach.step (x := ⟨0, [0, 1]⟩) h1 (by decide)
  have h3 := Reach.step (x := ⟨0, [1, 0]⟩) h2 (by decide)
  have h4 := Reach.step (x := ⟨0, [1, 1]⟩) h3 (by decide)
  exact h4

/-- the hypotheses of C01/C02 are satisfiable and the conclusions hold on the run -/
example : final0.popped.Perm (allNodes g0) :=
  (reach_init natAlg g0 wf0 final0 reach0).2.2.2.1 rfl

example : NonIncreasing natAlg.toPOps g0 final0.popped :=
  (reach_init natAlg g0 wf0 final0 reach0).2.1

example : final0.popped.length = (allNodes g0).length := by decide

end Example

end Pcfg
