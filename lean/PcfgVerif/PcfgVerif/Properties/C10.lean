import PcfgVerif.Properties.SourceTables.ProcessState
import PcfgVerif.Generated.ProcessState
import PcfgVerif.Properties.OmenCore
import PcfgVerif.Properties.OmenCacheCore
import PcfgVerif.Generated.OmenFacts
/-!
# C10 — the OMEN generator enumerates each level exactly

`Tables` is what `load_rules` builds from `IP.level` / `CP.level` / `LN.level`; `Tables.WF` states that
every key is listed once, keys have the length of the initial n-gram, levels are in range and no level listed for a
prefix has an empty letter list (true of trainer output: `toTables_WF`).  `levelOf` is the specification: length cost +
initial n-gram cost + transition costs.

`C10_exact` is the property for one level; `C10_tree_walk` and `C10_block_strings` are its two halves for one
(length, initial n-gram) pair; `C10_raise_iff` says when the generator raises instead of starting.  The memo table:
`C10_cache_independent` / `C10_cache_history` (the memoised search returns what the table-free one returns), and from the
source `C10_cache_sites`, `C10_memo_table_per_object`, `C10_no_process_wide_state`.  That `MarkovCracker` is `enumFrom` is left
to the correspondence run (real guess sequences, fresh and warmed `Optimizer`).
-/
namespace Pcfg.C10
open Omen

/-- started from the beginning, `MarkovCracker.next_guess()` emits exactly the strings whose level is
`target`, each once, and then returns `None`: from some number of calls on the list of guesses no longer
grows (`enumFrom` stops at the first `None`; the code would start the level again).  `hpos` is not needed -/
theorem C10_exact (t : Tables) (ipLen : Nat) (hpos : 0 < ipLen) (hwf : t.WF ipLen) (target : Nat)
    (s0 : CState) (hs : t.start = some s0) :
    ∃ N, (∀ fuel, N ≤ fuel → t.enumFrom target fuel s0 = t.enumFrom target N s0) ∧
      (t.enumFrom target N s0).Nodup ∧
      ∀ s : Str, s ∈ t.enumFrom target N s0 ↔ t.levelOf ipLen s = some target :=
  level_exact t ipLen hpos hwf target s0 hs

set_option linter.unusedVariables false in
/-- per (length, initial n-gram): calling `GuessStructure.next_guess` until it returns `None` (more calls than the
list is long) yields the specification list of parse trees, in order — `_fill_out_parse_tree` finds the first, each call
the successor.  `hne`: no level listed for a prefix has an empty letter list (without it the statement fails: `OmenCore`);
`hcp` is not needed -/
theorem C10_tree_walk (m : Model) (hne : ∀ e ∈ m.cp, ∀ p ∈ e.2, p.2 ≠ [])
    (hcp : ∀ e ∈ m.cp, ∀ p ∈ e.2, p.1 ≤ m.maxLevel) (len : Nat) (ip : Str) (target : Nat) (fuel : Nat)
    (hf : (m.allTrees len ip target).length < fuel) :
    m.enumFrom fuel (m.fill len ip target) = m.allTrees len ip target := by
  rw [fill_eq_head m hne]
  exact enumFrom_suffix m _ [] fuel (nextTree_walks m hne len ip target) hf

set_option linter.unusedVariables false in
/-- the strings of one (length, initial n-gram) block (the letters after the initial n-gram) are exactly those
of the block's length, if that is not 0, whose transition costs sum to the block's target, each once (`hip` is not
needed, and of `hwf` only what it says of `cp`: `allTrees_strings`) -/
theorem C10_block_strings (t : Tables) (ipLen : Nat) (hwf : t.WF ipLen) (len : Nat) (ip : Str)
    (hip : ip.length = ipLen) (target : Nat) :
    ((t.m.allTrees len ip target).map fun tr => tr.filterMap t.m.charAt).Nodup ∧
    ∀ body : List Char, body ∈ ((t.m.allTrees len ip target).map fun tr => tr.filterMap t.m.charAt) ↔
      (body.length = len ∧ 0 < len ∧ t.m.transCost ip body = some target) :=
  allTrees_strings t.m hwf.entriesWF len ip target

/-- the only other outcome: `_find_first_object` raises (`enumLevel = none`) exactly when no initial n-gram,
or no length, is listed at a level below `max_level` -/
theorem C10_raise_iff (t : Tables) (target limit : Nat) :
    t.enumLevel target limit = none ↔
      (findFirst t.m.maxLevel t.ipTbl = none ∨ findFirst t.m.maxLevel t.lnTbl = none) := by
  unfold Tables.enumLevel Tables.start
  cases findFirst t.m.maxLevel t.ipTbl <;> cases findFirst t.m.maxLevel t.lnTbl <;> simp

/-- the result does not depend on what the shared lookup cache already holds: with any table whose
entries are true results (`CacheOK` — in particular the table left by any earlier calls, for other
levels, lengths or guess structures) the memoised `_fill_out_parse_tree` returns what the table-free
function returns, and leaves such a table behind -/
theorem C10_cache_independent (m : Model) (maxLen len : Nat) (c : Cache) (ip : Str) (target : Nat)
    (h : CacheOK m c) :
    (m.fillC maxLen len c ip target).1 = m.fill len ip target ∧
    CacheOK m (m.fillC maxLen len c ip target).2 :=
  fillC_eq_fill m maxLen len c ip target h

/-- every history of calls from the empty table (a fresh `Optimizer`) agrees call by call with the
table-free function -/
theorem C10_cache_history (m : Model) (maxLen : Nat) (calls : List (Nat × Str × Nat)) :
    (calls.foldl (fun (acc : List (Option (List Item)) × Cache) k =>
        let r := m.fillC maxLen k.1 acc.2 k.2.1 k.2.2
        (acc.1 ++ [r.1], r.2)) ([], [])).1 =
    calls.map fun k => m.fill k.1 k.2.1 k.2.2 :=
  (fillC_history m maxLen calls ([], []) (cacheOK_nil m)).trans (List.nil_append _)

/-- the table is read and written nowhere else: every call on `self.optimizer` in the guesser sits in
`_fill_out_parse_tree`, is a `lookup` or an `update` and uses as key the function's own three arguments (ip, length,
target level; names normalised: parameter k is `argk`, a local assigned once from a parameter stands for it), and a
`lookup` is among them — regenerated from the source -/
theorem C10_cache_sites :
    Pcfg.Generated.OmenFacts.optimizerCalls.all (fun c =>
      c.1 == "guess_structure.py" && c.2.1 == "_fill_out_parse_tree" &&
      (c.2.2.1 == "lookup" || c.2.2.1 == "update") && c.2.2.2 == ["arg1", "arg2", "arg3"]) = true ∧
    Pcfg.Generated.OmenFacts.optimizerCalls.any (fun c => c.2.2.1 == "lookup") = true := by
  decide +kernel

/-- non-vacuity: a well-formed bigram table whose level 1 is `ab, aaa` -/
example : exT.WF 1 ∧ exT.enumLevel 1 10 = some [['a', 'b'], ['a', 'a', 'a']] := ⟨exT_wf, exT_level_one⟩

/-- the memo table is one per grammar object: the only place that constructs an `Optimizer` is the body of a constructor
(a fresh table each time an object is built) — never a default argument or a module-level value, which would be one table for
every ruleset loaded in the process and break the hypothesis of `C10_cache_independent` (entries true *for this model*) -/
theorem C10_memo_table_per_object :
    Generated.OmenFacts.optimizerSites = [("pcfg_grammar.py", "body", "__init__")] := rfl

/-- **nothing outlives a call except the objects a caller holds**: the list, regenerated from the four library packages, of every
module-level or class-level mutable container, cache decorator or cache call (`functools.lru_cache`, `cache`), mutable or computed default
argument and `global` statement in `lib_guesser`, `lib_trainer`, `lib_scorer`, `lib_princeling` is empty.
C10 needs it because `enumFrom` is a function of the tables, and `fillC` of the memo table it is handed, one per grammar object
(`C10_memo_table_per_object`): a level cannot depend on another ruleset loaded in the same process -/
theorem C10_no_process_wide_state : Generated.ProcessState.processWideState = [] :=
  SourceTables.no_process_wide_state

end Pcfg.C10
