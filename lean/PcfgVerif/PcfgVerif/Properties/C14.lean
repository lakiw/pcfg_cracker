import PcfgVerif.Properties.SourceTables.CliOptions
import PcfgVerif.Properties.SourceTables.ProcessState
import PcfgVerif.Generated.Session
import PcfgVerif.Properties.LoaderCore
import PcfgVerif.Properties.SkipBruteOrder
import PcfgVerif.Lemmas.GridBasic
/-!
# C14 — skip_brute and all_lower are pure restrictions of the default run

Loader level (this file): under `skip_brute` the base-structure list is the default list without the
structures containing `M`, in the same order, each file probability divided by `1 − P(M)` (`C14_skip_brute`) — with or
without an `M` line (`C14_skip_brute_no_markov`); `C14_case_insertion`: the `C<n>` the loader puts behind every `A<n>`;
`C14_no_process_wide_state`: a load finds nothing an earlier load left in the process.  Because every pre-terminal probability is `base probability × …`, dividing all
base probabilities by one positive constant leaves every comparison the next function makes
unchanged over the rationals (`C14_rescaled_prob`, `C14_order_preserved`: equations between probabilities and
between comparisons, no theorem here speaks of the two runs); over doubles the division is monotone (correctly
rounded), and the stream comparison is checked exactly on rulesets where `1 − P(M)` is a power of two.  `--all_lower`:
`C14_all_lower_masks`.  Through save/restore the flags are those of the save file (`C14_load_takes_saved_flags`,
`C14_saved_flags_round_trip`, `C14_session_name_is_the_typed_name`).
-/
namespace Pcfg.C14
variable {P : Type}

/-- `--skip_brute` = filter out `M`, rescale by `1/(1 − P(M))`, keep the order (`tot`: what the first scan of
`grammar.txt` leaves as divisor, `skipTotal`; `hdiv`: no division raises) -/
theorem C14_skip_brute (parseP : CPs → Option P) (A : PArith P) (isAlpha : Nat → Bool) (text : CPs)
    (hone : ∀ p, A.div p A.one = some p)
    (bs : List (BaseS P)) (hdef : loadBase parseP A isAlpha false text = some bs)
    (tot : P) (htot : skipTotal parseP A text = some tot)
    (hdiv : ∀ b ∈ bs, (A.div b.prob tot).isSome) :
    loadBase parseP A isAlpha true text =
      some ((bs.filter fun b => !(b.replacements.contains [0x4d])).filterMap fun b =>
        (A.div b.prob tot).map fun q => { b with prob := q }) := by
  obtain ⟨bs0, hb0, rfl⟩ := Option.map_eq_some_iff.mp hdef
  rw [loadBase_skip_eq, htot, Option.bind_some, baseLoop_skip parseP A isAlpha hone tot _ bs0 hb0, Option.map_some]
  · -- `insertCase` changes neither a probability nor whether `M` occurs: it commutes with the filter and the division
    rw [List.map_filterMap, List.filter_map, List.filterMap_map]
    simp only [Function.comp_def, insertCase_contains_M, Option.map_map]
  · intro b hb
    exact hdiv { b with replacements := insertCase b.replacements } (List.mem_map_of_mem hb)

/-- the hypotheses are satisfiable: the `grammar.txt` of `LoaderCore`, with an `M` line in the middle -/
example := C14_skip_brute exParseN exArith exAlpha exBase exArith_one
  [⟨50, [[65, 49], [67, 49], [68, 49]]⟩, ⟨25, [[77]]⟩, ⟨25, [[65, 50], [67, 50]]⟩] (by rfl)
  75 (by decide +kernel) (by decide +kernel)

/-- a ruleset without a Markov structure is loaded unchanged under `--skip_brute` -/
theorem C14_skip_brute_no_markov (parseP : CPs → Option P) (A : PArith P) (isAlpha : Nat → Bool) (text : CPs)
    (hone : ∀ p, A.div p A.one = some p)
    (bs : List (BaseS P)) (hdef : loadBase parseP A isAlpha false text = some bs)
    (hnoM : ∀ b ∈ bs, b.replacements.contains [0x4d] = false)
    (hscan : findMarkovProb parseP (textModeLines text) = some none) :
    loadBase parseP A isAlpha true text = some bs := by
  have htot : skipTotal parseP A text = some A.one := by
    simp [skipTotal, hscan]
  rw [C14_skip_brute parseP A isAlpha text hone bs hdef A.one htot fun b _ => by simp [hone],
    List.filter_eq_self.mpr fun b hb => by rw [hnoM b hb]; rfl]
  simp only [hone]
  exact congrArg some List.filterMap_some

/-- the loader puts `C<n>` directly after every `A<n>` and inserts nothing else (in a structure that holds no `C` of
its own) -/
theorem C14_case_insertion (reps : List CPs) (h : ∀ r ∈ reps, r.head? ≠ some 0x43) :
    (insertCase reps).filter (fun r => r.head? != some 0x43) = reps ∧
    ∀ (i : Nat) r, (insertCase reps)[i]? = some r → r.head? = some 0x41 →
      (insertCase reps)[i + 1]? = some (0x43 :: r.tail) :=
  ⟨insertCase_filter reps h, insertCase_next reps⟩

/-- `--all_lower`: the mask list of length `n` is the single mask `L…L` with probability one -/
theorem C14_all_lower_masks (one : P) (n : Nat) :
    (allLowerMasks one n).length = 1 ∧
    ∀ g ∈ allLowerMasks one n, g.values = [List.replicate n 0x4c] ∧ g.prob = one := by
  refine ⟨rfl, fun g hg => ?_⟩
  cases List.mem_singleton.mp hg
  exact ⟨rfl, rfl⟩

/-- the stream, over exact rationals: dividing a base-structure probability by a constant (`1 − P(M)`) divides the
pre-terminal probabilities built on it (`_find_prob`) by that constant … -/
theorem C14_rescaled_prob (bp total : Rat) (cols : List (List Rat)) (idx : List Nat) :
    probFold SkipBrute.O (bp / total) cols idx = probFold SkipBrute.O bp cols idx / total :=
  probFold_map SkipBrute.O (· / total) (fun a p => by
    show a * p / total = a / total * p
    rw [Rat.div_def, Rat.div_def, Rat.mul_assoc, Rat.mul_comm p, ← Rat.mul_assoc]) bp cols idx

/-- … and therefore, the constant being positive, the comparison `<=` between two pre-terminal probabilities — all the
priority queue and the next function ever look at — has the same value after the division as before (exact
arithmetic; over doubles only the division itself is monotone and the products are rounded anew, so comparisons between
nearly equal probabilities may come out differently) -/
theorem C14_order_preserved (total : Rat) (ht : 0 < total) (bp1 bp2 : Rat)
    (cols1 cols2 : List (List Rat)) (idx1 idx2 : List Nat) :
    SkipBrute.O.le (probFold SkipBrute.O (bp1 / total) cols1 idx1) (probFold SkipBrute.O (bp2 / total) cols2 idx2) =
    SkipBrute.O.le (probFold SkipBrute.O bp1 cols1 idx1) (probFold SkipBrute.O bp2 cols2 idx2) := by
  have hi : 0 < total⁻¹ := Rat.inv_pos.mpr ht
  refine decide_eq_decide.mpr ?_
  rw [C14_rescaled_prob, C14_rescaled_prob, Rat.div_def, Rat.div_def, ← Rat.not_lt, ← Rat.not_lt, Rat.mul_lt_mul_right hi]

/-- **a restored session runs with the flags of its save file** (glue of `pcfg_guesser.py`, regenerated from the source on every run):
after option parsing the only writes to `program_info` are the three in `load_save`, each taken from the save file (`rule_name`,
`skip_brute`, `skip_case`); `main` itself assigns nothing and no write uses a computed key, so whatever `--skip_brute` /
`--all_lower` is typed next to `--load` (they reach `program_info` as `args.skip_brute` / `args.skip_case`) is overwritten by
`load_save` - before the grammar is built: `C14_saved_flags_round_trip`. -/
theorem C14_load_takes_saved_flags :
    Generated.CliOptions.guesserAssign.filter (fun a => a.1 != "parse_command_line") =
      [("load_save", "rule_name", "save_config.get('rule_info', 'rule_name')"),
       ("load_save", "skip_brute", "save_config.getboolean('rule_info', 'skip_brute')"),
       ("load_save", "skip_case", "save_config.getboolean('rule_info', 'skip_case')")] ∧
    Generated.CliOptions.guesserAssign.all (fun a => a.2.1 != "<dynamic>") = true ∧
    Generated.CliOptions.guesserAssign.filter (fun a => a.1 == "parse_command_line" && (a.2.1 == "skip_brute" || a.2.1 == "skip_case")) =
      [("parse_command_line", "skip_brute", "args.skip_brute"), ("parse_command_line", "skip_case", "args.skip_case")] := by
  -- the tests are evaluated entry by entry, which leaves each list next to itself; `decide` would go on to compare the long
  -- strings of two equal lists byte by byte in the kernel, by far the dearer part
  simp only [Generated.CliOptions.guesserAssign, List.filter, List.all, String.reduceBNe, String.reduceBEq, Bool.and_self,
    Bool.or_self, Bool.and_false, Bool.and_true, Bool.or_false, Bool.or_true, and_self]

/-- the save file the flags are read back from is the one of the session named on the command line: the only assignment to
`program_info['session_name']` is `args.session`, unchanged (regenerated from the source), so `--load` of one session never takes
the flags another session saved -/
theorem C14_session_name_is_the_typed_name :
    Generated.CliOptions.guesserAssign.filter (fun a => a.2.1 == "session_name") =
      [("parse_command_line", "session_name", "args.session")] :=
  SourceTables.session_name_is_the_typed_name

/-- **the flags of a session travel through its save file unchanged** (regenerated from `pcfg_guesser.py`): the only values ever stored
under `skip_brute` / `skip_case` are those of the run that created the session (`create_save_config`; nothing else - `load_save` in
particular - writes these keys), `load_save` sets the program's flags from exactly these entries whatever was typed beside `--load`, and it
does so before the grammar is built - so every later session of a run applies the same restriction (`C14_skip_brute`,
`C14_all_lower_masks`) to the same grammar -/
theorem C14_saved_flags_round_trip :
    Generated.Session.saveConfigSets.filter (fun t => t.2.1 == "skip_brute" || t.2.1 == "skip_case") =
      [("create_save_config", "skip_brute", "str(program_info['skip_brute'])"),
       ("create_save_config", "skip_case", "str(program_info['skip_case'])")] ∧
    Generated.Session.loadSaveAssigns.filter (fun t => t.1 == "skip_brute" || t.1 == "skip_case") =
      [("skip_brute", "save_config.getboolean('rule_info','skip_brute')"),
       ("skip_case", "save_config.getboolean('rule_info','skip_case')")] ∧
    Generated.Session.loadSaveBeforeGrammar = true := by
  -- evaluated entry by entry, as in `C14_load_takes_saved_flags`
  simp only [Generated.Session.saveConfigSets, Generated.Session.loadSaveAssigns, Generated.Session.loadSaveBeforeGrammar,
    List.filter, String.reduceBEq, Bool.or_self, Bool.or_false, Bool.or_true, and_self]

/-- **nothing outlives a call except the objects a caller holds**: the list, regenerated from the four library packages, of every
module-level or class-level mutable container, cache decorator or cache call (`functools.lru_cache`, `cache`), mutable or computed default
argument and `global` statement in `lib_guesser`, `lib_trainer`, `lib_scorer`, `lib_princeling` is empty.
C14 needs it because `loadBase` is a function of the flags and the text of `grammar.txt`: the restricted run cannot depend on a default run,
or an earlier ruleset, in the same process -/
theorem C14_no_process_wide_state : Generated.ProcessState.processWideState = [] :=
  SourceTables.no_process_wide_state

end Pcfg.C14
