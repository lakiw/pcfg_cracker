import PcfgVerif.Lemmas.ReaderLemmas
import PcfgVerif.Generated.ReaderUses
/-!
# C19 — equivalent encodings of a training list train the same grammar

`readLine` is what one line of the training file contributes (yielded passwords, password count,
encoding-error count); the reader `readLines` folds it over the lines of the file (`readLines_append`).  The theorems
below are per line; a whole file is reached through `C19_fold` (`.out` distributes over `++`).  No theorem mentions
`readPasswords` or the three training passes, which read that one sequence (the ruleset is a function of it: C06).
`int()`, `bytes.fromhex().decode()` and `str.encode()` are parameters.

Equivalent spellings of a line: `C19_hex`, `C19_count`, `C19_crlf`.  What is skipped and what can be yielded: `C19_skips`,
`C19_no_leak`.  The passes: `C19_fold`, `C19_only_totals_reach_the_ruleset`.
-/
namespace Pcfg.C19

set_option linter.unusedVariables false in
/-- a `$HEX[...]` line whose bytes decode to `p` is read exactly like the plain line `p`
(`p` itself not of the `$HEX[…]` form and not ending in CR/LF: what a plain line can denote); `hh` is not used -/
theorem C19_hex (R : RParams) (h p : CPs) (hd : R.hexDecode h = some p)
    (hh : ∀ c ∈ h, c ≠ 0x0d ∧ c ≠ 0x0a) (ht : NoTrailEol p) (hnf : NotHexForm p) :
    readLine R false (hexLine h ++ [0x0a]) = readLine R false (p ++ [0x0a]) := by
  rw [readLine_hex, hd, readLine_plain R p ht hnf]

/-- with `--prefixcount`, `count password` (`count` ≥ 0) yields, and adds to `num_passwords`, what the plain line repeated
`count` times does; leading / inner / trailing spaces of the password are kept -/
theorem C19_count (R : RParams) (lead tok p : CPs) (n : Nat)
    (hlead : ∀ c ∈ lead, isPySpace c = true)
    (htok : tok ≠ [] ∧ ∀ c ∈ tok, isPySpace c = false ∧ c ≠ 0x20)
    (hn : R.parseInt tok = some (n : Int)) (ht : NoTrailEol p) (hnf : NotHexForm p) :
    (readLines R true [lead ++ tok ++ [0x20] ++ p ++ [0x0a]]).out =
      (readLines R false (List.replicate n (p ++ [0x0a]))).out ∧
    (readLines R true [lead ++ tok ++ [0x20] ++ p ++ [0x0a]]).numPasswords =
      (readLines R false (List.replicate n (p ++ [0x0a]))).numPasswords := by
  have h := readLines_replicate R false (p ++ [0x0a]) n
  rw [readLine_plain R p ht hnf] at h
  rw [readLines_singleton, readLine_count R lead tok p n hlead htok hn ht hnf, h.1, h.2]
  exact lineResult_nat R n p

set_option linter.unusedVariables false in
/-- CRLF line ends are equivalent to LF: `rstrip('\r\n')` leaves `p` of both lines (`hh` is not used) -/
theorem C19_crlf (R : RParams) (p : CPs) (ht : NoTrailEol p) (hh : NotHexForm p) :
    readLine R false (p ++ [0x0d, 0x0a]) = readLine R false (p ++ [0x0a]) := by
  rw [readLine_false, readLine_false, rstrip_lf p ht, rstripChars_append _ p _ (by decide) ht.contains]

/-- a line `check_valid` rejects (blank, with a TAB or a control character) is skipped without being counted as an error;
undecodable `$HEX[]` is skipped and counted (the condition on the characters of `h` is not used); a line whose count token is not
a number is skipped and not counted -/
theorem C19_skips (R : RParams) :
    (∀ p, NoTrailEol p → NotHexForm p → checkValid p = false → R.encodable p = true →
      readLine R false (p ++ [0x0a]) = ([], 0, 0)) ∧
    (∀ h, R.hexDecode h = none → (∀ c ∈ h, c ≠ 0x0d ∧ c ≠ 0x0a) →
      readLine R false (hexLine h ++ [0x0a]) = ([], 0, 1)) ∧
    (∀ tok p, (tok ≠ [] ∧ ∀ c ∈ tok, isPySpace c = false ∧ c ≠ 0x20) → R.parseInt tok = none →
      NoTrailEol p → readLine R true (tok ++ [0x20] ++ p ++ [0x0a]) = ([], 0, 0)) := by
  refine ⟨fun p ht hh hi he => ?_, fun h hd _ => ?_, fun tok p htok hn ht => ?_⟩
  · rw [readLine_plain R p ht hh]
    simp [lineResult, hi, he]
  · rw [readLine_hex, hd]
  · exact (readLine_counted R [] tok p (by simp) htok ht).trans (by rw [hn])

/-- nothing that was skipped leaks: every yielded password passed `check_valid` and is encodable -/
theorem C19_no_leak (R : RParams) (pc : Bool) (line q : CPs) (hq : q ∈ (readLine R pc line).1) :
    checkValid q = true ∧ R.encodable q = true := by
  rcases readLine_cases R pc line with h | ⟨n, p, h⟩ <;> rw [h] at hq
  · cases hq
  · exact mem_lineResult R hq

/-- what is yielded for a list of lines is what its two parts yield, one after the other -/
theorem C19_fold (R : RParams) (pc : Bool) (l1 l2 : List CPs) :
    (readLines R pc (l1 ++ l2)).out = (readLines R pc l1).out ++ (readLines R pc l2).out := by
  rw [readLines_append]

/-- the constants of `read_password` the model takes from the source (regenerated) -/
theorem C19_constants : Generated.Reader.defaultCount = 1 ∧ Generated.Reader.hexDropFront = 5 ∧
    Generated.Reader.hexDropBack = 1 ∧ Generated.Reader.countTok = 0 ∧ Generated.Reader.restTok = 1 ∧
    Generated.Reader.yieldFrom = 0 :=
  ⟨defaultCount_eq, hexDropFront_eq, hexDropBack_eq, countTok_eq, restTok_eq, yieldFrom_eq⟩

/-- **what a reader notices on the way never reaches the ruleset** (regenerated from `trainer.py` / `lib_trainer` on every run): outside
the reader itself the trainer reads from the reader object only the password stream (`read_password()`), the two totals
`num_passwords` and `num_encoding_errors` — the second and third component of `readLine`, equal line by line for `C19_hex` and
`C19_crlf`; `C19_count` states the password count only — and, for a message printed to the screen only, the duplicate-detection state (which *does* differ between a count-prefixed
and a repeated list).  Nothing else of the reader's state is written to `config.ini` or used to decide anything. -/
theorem C19_only_totals_reach_the_ruleset :
    (Generated.ReaderUses.uses.all fun u =>
      u.2.2.1 == "read_password" || u.2.2.1 == "num_passwords" || u.2.2.1 == "num_encoding_errors" ||
      u.2.2.2 == "print" || u.2.2.2 == "if-print-only") = true ∧
    (Generated.ReaderUses.uses.filter fun u => u.2.2.2 == "config.set").map (·.2.2.1) = ["num_passwords", "num_encoding_errors"] := by
  decide +kernel

end Pcfg.C19

namespace Pcfg
open C19

/-- `int()` knows `"3"`, `fromhex().decode()` knows `"61"`, everything is encodable -/
def exR : RParams :=
  { parseInt := fun t => if t = [0x33] then some 3 else none,
    hexDecode := fun h => if h = [0x36, 0x31] then some [0x61] else none,
    encodable := fun _ => true }

/-- `$HEX[61]\n` is read as `a` -/
example : readLine exR false (hexLine [0x36, 0x31] ++ [0x0a]) = ([[0x61]], 1, 0) := by decide +kernel
example : hexLine [0x36, 0x31] = cpsOfString "$HEX[61]" := by decide +kernel
/-- the hypotheses of `C19_hex` are satisfiable -/
example : readLine exR false (hexLine [0x36, 0x31] ++ [0x0a]) = readLine exR false ([0x61] ++ [0x0a]) :=
  C19_hex exR [0x36, 0x31] [0x61] rfl (by decide +kernel) (fun _ hc => by cases hc; decide) (by unfold NotHexForm; decide)
/-- an undecodable hex line: one encoding error -/
example : readLine exR false (hexLine [0x36] ++ [0x0a]) = ([], 0, 1) :=
  (C19_skips exR).2.1 [0x36] rfl (by decide +kernel)

/-- `"  3  a b \n"` under `--prefixcount`: three copies of `" a b "` (leading and trailing space kept) -/
example : readLine exR true ([0x20, 0x20, 0x33, 0x20, 0x20, 0x61, 0x20, 0x62, 0x20, 0x0a]) =
    ([[0x20, 0x61, 0x20, 0x62, 0x20], [0x20, 0x61, 0x20, 0x62, 0x20], [0x20, 0x61, 0x20, 0x62, 0x20]],
      3, 0) := by decide +kernel
/-- the hypotheses of `readLine_count` / `C19_count` are satisfiable (same line) -/
example : readLine exR true ([0x20, 0x20] ++ [0x33] ++ [0x20] ++ [0x20, 0x61, 0x20, 0x62, 0x20] ++ [0x0a]) =
    lineResult exR 3 [0x20, 0x61, 0x20, 0x62, 0x20] :=
  readLine_count exR [0x20, 0x20] [0x33] [0x20, 0x61, 0x20, 0x62, 0x20] 3 (by decide +kernel)
    ⟨by decide, by decide +kernel⟩ rfl (fun _ hc => by cases hc; decide) (by unfold NotHexForm; decide)
example :
    (readLines exR true [[0x20, 0x20] ++ [0x33] ++ [0x20] ++ [0x20, 0x61, 0x20, 0x62, 0x20] ++ [0x0a]]).out =
      (readLines exR false (List.replicate 3 ([0x20, 0x61, 0x20, 0x62, 0x20] ++ [0x0a]))).out :=
  (C19_count exR [0x20, 0x20] [0x33] [0x20, 0x61, 0x20, 0x62, 0x20] 3 (by decide +kernel)
    ⟨by decide, by decide +kernel⟩ rfl (fun _ hc => by cases hc; decide) (by unfold NotHexForm; decide)).1
/-- first token not a number: skipped -/
example : readLine exR true ([0x78] ++ [0x20] ++ [0x61] ++ [0x0a]) = ([], 0, 0) :=
  (C19_skips exR).2.2 [0x78] [0x61] ⟨by decide, by decide +kernel⟩ rfl (fun _ hc => by cases hc; decide)

/-- a line with a TAB (`"a\tb\n"`) is skipped, and a blank line too -/
example : readLine exR false [0x61, 0x09, 0x62, 0x0a] = ([], 0, 0) := by decide +kernel
example : readLine exR false [0x0a] = ([], 0, 0) := by decide +kernel
example : readLine exR false ([0x61, 0x09, 0x62] ++ [0x0a]) = ([], 0, 0) :=
  (C19_skips exR).1 [0x61, 0x09, 0x62] (fun _ hc => by cases hc; decide) (by unfold NotHexForm; decide) (by decide) rfl
/-- a plain line with CRLF is read once -/
example : readLine exR false [0x61, 0x62, 0x0d, 0x0a] = ([[0x61, 0x62]], 1, 0) := by decide +kernel

end Pcfg
