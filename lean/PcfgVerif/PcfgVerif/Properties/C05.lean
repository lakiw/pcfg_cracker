import PcfgVerif.Properties.DetectCore
import PcfgVerif.Lemmas.TrainedCounts
import PcfgVerif.Lemmas.ParseLabelled
/-!
# C05 — training segments every password into a lossless, soundly typed tiling

`parse U cfg t pw` is `PCFGPasswordParser.parse` (keyboard walks, e-mails, websites, years, context
strings, alpha (+ multi-word), digits, other).  `U` is CPython's Unicode database as a parameter;
`LenPres U pw`: the detectors' lower-casing keeps the length of every substring of `pw` — what
`case_util.lower_keep_length` guarantees by construction.  `t` is the multi-word table after an
arbitrary training history (`C05_multiword_history` says what it holds).

The whole pipeline: `C05_tiling`, `C05_other_sound`.  One call of a detector on a section: `C05_keyboard`,
`C05_year_context`, `C05_alpha`, `C05_multiword`, `C05_digits`, `C05_other`; which occurrence the search loops
of the website, e-mail, year and context detectors settle on: `C05_website_*`, `C05_email_detected_iff`,
`C05_year_first_year`, `C05_context_detected_iff`.  The counters: `C05_keyboard_counter`,
`C05_len_indexed_counters`, `C05_trained_counters`.  That the Unicode tables satisfy `LenPres` and `GoodA`,
and that the model is the parser, is the harness's part.
-/
namespace Pcfg.C05
open Pcfg.Detect

set_option linter.unusedVariables false in
/-- lossless tiling: the final sections tile the password left to right — every section non-empty,
every section except a website the exact slice at its offset, a website section the slice at its offset
of the lower-casing of a substring around it (the section `detect_website` was given) — and every section
carries a label (`hmin` is not used) -/
theorem C05_tiling (U : UEnv) (cfg : MWCfg) (t : MWTable) (pw : CPs) (hne : pw ≠ [])
    (hl : LenPres U pw) (hmin : 0 < cfg.minLen) :
    TilesFrom U pw 0 (parse U cfg t pw).sections ∧ AllLabelled (parse U cfg t pw).sections :=
  ⟨(parse_labelled U cfg t pw hne hl).1, (parse_labelled U cfg t pw hne hl).2.1⟩

/-- keyboard segments: at least four keys, consecutive keys adjacent on one layout common to the
whole walk, and `interesting_keyboard` accepts it (at least two character classes, not black-listed:
`interesting_classes`); four is the source's `min_keyboard_run` (`C05_tables`); `hne` is used only because the fact is
read off `detectKeyboardWalk_out`, which also tiles (the empty password has no walk) -/
theorem C05_keyboard (U : UEnv) (pw : CPs) (hne : pw ≠ []) (w : CPs)
    (hw : w ∈ (detectKeyboardWalk U pw).2) :
    4 ≤ w.length ∧ interesting U w = true ∧
    ∃ b, ∀ i, i + 1 < w.length → adjacentOn b (w.getD i 0) (w.getD (i + 1) 0) :=
  (detectKeyboardWalk_out U pw hne).sound w hw

/-- a year is four characters, a prefix of the table (`19`, `20`) and two digits; context segments come from the fixed list -/
theorem C05_year_context (U : UEnv) (text : CPs) :
    (∀ pieces y, detectYear U text = some (pieces, y) →
      y.length = 4 ∧ (∃ pre ∈ Generated.Tables.yearPrefixes, y.take 2 = pre) ∧
      U.isDigit (y.getD 2 0) = true ∧ U.isDigit (y.getD 3 0) = true) ∧
    (∀ pieces c, detectContext U text = some (pieces, c) → c ∈ Generated.Tables.contextList) :=
  ⟨fun pieces y h => detectYear_sound U text pieces y h,
   fun pieces c h => (detectContext_cut U text pieces c h).1⟩

/-- alpha segments contain only letters and come with one mask per word, of the same length (that the label is
the word's length: `detectAlpha_cut`, `recSec`); when a run is split into several words: `C05_multiword` -/
theorem C05_alpha (U : UEnv) (cfg : MWCfg) (t : MWTable) (text : CPs) (hl : LenPres U text)
    (pieces : List Sec) (words masks : List CPs)
    (h : detectAlpha U cfg t text = some (pieces, (words, masks))) :
    words.length = masks.length ∧ (∀ w ∈ words, w ≠ [] ∧ ∀ c ∈ w, U.isAlpha c = true) ∧
    (∀ (i : Nat) w m, words[i]? = some w → masks[i]? = some m → m.length = w.length) := by
  obtain ⟨s, e, recs, -, hf, -, -, -, -, -, -, hr⟩ := detectAlpha_cut U cfg t text hl pieces _ h
  obtain ⟨rfl, rfl⟩ := Prod.mk.inj hf
  refine ⟨by simp, fun w hw => ?_, fun i w m hw' hm => ?_⟩
  · obtain ⟨r, hr', rfl⟩ := List.mem_map.mp hw
    exact (hr r hr').1
  rw [List.getElem?_map, Option.map_eq_some_iff] at hw' hm
  obtain ⟨r, hr', rfl⟩ := hw'
  obtain ⟨_, hr'', rfl⟩ := hm
  cases hr'.symm.trans hr''
  obtain ⟨-, h1, h2, -⟩ := hr r (List.mem_of_getElem? hr')
  rw [h1, maskOfCP, List.length_map, h2]

example : [cpsOfString "pass", cpsOfString "word"].length = [cpsOfString "ULLL", cpsOfString "ULLL"].length :=
  (C05_alpha asciiC {} exTable _ (asciiC_lenPres _) _ _ _ ex_detectAlpha).1

/-- a run is split into several words only when every part was seen at least `threshold` times and is at least `minLen`
long, and the whole was seen fewer than `threshold` times -/
theorem C05_multiword (cfg : MWCfg) (t : MWTable) (s : CPs) (h : 1 < (mwParse cfg t s).2.length) :
    mwCount t s < cfg.threshold ∧
    ∀ w ∈ (mwParse cfg t s).2, cfg.threshold ≤ mwCount t w ∧ cfg.minLen ≤ w.length := by
  rcases mwParse_cases cfg t s with h' | ⟨hc, _, hw⟩
  · rw [h'] at h; simp at h
  · exact ⟨hc, fun w hm => (hw w hm).imp_right And.left⟩

/-- for every prior training history the multi-word table is the tally of qualifying alpha runs -/
theorem C05_multiword_history (U : UEnv) (cfg : MWCfg) (history : List CPs) (w : CPs) :
    mwCount (history.foldl (fun t p => mwTrain U cfg t p) []) w =
      (history.flatMap fun p =>
        if p.length < cfg.minLen || p.length > cfg.maxLen then []
        else (alphaRuns U (U.lowerPy p) []).filter fun r => decide (cfg.minLen ≤ r.length)).count w := by
  rw [mwTrain_count, mwCount, count_nil, Nat.zero_add]

/-- what `detect_digits` finds in a section text is its first maximal run of digits, labelled with its length:
no digit in front of it, none directly behind it -/
theorem C05_digits (U : UEnv) (text : CPs) (pieces : List Sec) (d : CPs)
    (h : detectDigits U text = some (pieces, d)) :
    d ≠ [] ∧ (∀ c ∈ d, U.isDigit c = true) ∧ (d, some (lbl 'D' d.length)) ∈ pieces ∧
    ∃ pre post, text = pre ++ d ++ post ∧ (∀ c ∈ pre, U.isDigit c = false) ∧
      (∀ c, post.head? = some c → U.isDigit c = false) := by
  obtain ⟨s, e, hfr, rfl, rfl⟩ := detectDigits_cut U text pieces d h
  obtain ⟨hse, he, hpre, hrun, hpost⟩ := firstRun_spec hfr
  exact ⟨List.ne_nil_of_length_pos (by rw [slice_length_of_le (by omega)]; omega), hrun,
    mem_cut.mpr (.inr (.inl (.head _))), text.take s, text.drop (e + 1),
    (take_slice_drop text (by omega)).symm, hpre, hpost⟩

/-- after `other_detection` every section carries a label and the texts are what they were; the counters' "other" list
is exactly the texts of the sections that were unlabelled (they become `O<length>`, the others keep their
labels: `other_labelled`) -/
theorem C05_other (secs : List Sec) :
    AllLabelled (otherDetection secs).1 ∧ (otherDetection secs).1.map (·.1) = secs.map (·.1) ∧
    (otherDetection secs).2 = (secs.filter (fun s => s.2.isNone)).map (·.1) :=
  otherDetection_spec secs

/-- the walks reported (what the keyboard counter tallies) are exactly the `K` sections -/
theorem C05_keyboard_counter (U : UEnv) (pw : CPs) (hne : pw ≠ []) :
    (detectKeyboardWalk U pw).2 =
      ((detectKeyboardWalk U pw).1.filter (fun s => s.2.isSome)).map (·.1) :=
  (detectKeyboardWalk_out U pw hne).found

/-- **'other' segments contain no letter and no digit**: the strings `parse` reports as `other` — exactly the sections
`other_detection` labels `O<n>` (`C05_other`) — contain neither.  (With the fuel the pipeline gives them the list-level loops
run to their end, `stage_exhaustive`: after `alpha_detection` no unlabelled section contains a letter, after `digit_detection`
none contains a digit.)  `GoodA U pw`: lower-casing keeps the length of every substring of `pw` and changes the alpha-ness of
no position (both are per-code-point facts of CPython's Unicode tables, validated over all code points on every run). -/
theorem C05_other_sound (U : UEnv) (cfg : MWCfg) (t : MWTable) (pw : CPs) (hne : pw ≠ [])
    (hg : GoodA U pw) :
    ∀ o ∈ (parse U cfg t pw).others, (∀ c ∈ o, U.isAlpha c = false) ∧ (∀ c ∈ o, U.isDigit c = false) := by
  have hl := hg.1
  -- the sections the alpha pass starts from tile the password, so the unlabelled ones are substrings of it
  have h4 := stage_tiles U pw hl _ .recheck (detectContext_ok U) _ <|
    stage_tiles U pw hl _ .recheck (detectYear_ok U) _ <| stage_tiles U pw hl _ .skipFirst (detectWebsite_ok U) _ <|
    stage_tiles U pw hl _ .skipFirst (detectEmail_ok U) _ (detectKeyboardWalk_out U pw hne).tiles
  have h5 := stage_exhaustive _ _ _ (detectAlpha_exhausts U cfg t) _ fun s hs hn => by
    obtain ⟨a, b, hab⟩ := tilesFrom_unlabelled_slice U pw _ 0 h4 s hs hn
    rw [hab]
    exact goodA_slice U pw a b hg
  have h6 := stage_exhaustive _ _ _ (detectDigits_exhausts U (NoAlpha U) (noAlpha_slice U)) _
    fun s hs hn => (h5 s hs hn).2
  intro o ho
  rw [parse_def] at ho
  obtain ⟨s, hs, hn, rfl⟩ := mem_otherDetection_snd ho
  exact h6 s hs hn

/-- non-vacuity: the ASCII environment satisfies `GoodA` for every password, so `C05_other_sound` applies to it -/
theorem goodA_ascii (pw : CPs) : GoodA asciiC pw := by
  refine ⟨asciiC_lenPres pw, fun c d i => ?_⟩
  simp only [asciiC, List.getElem?_map, Option.map_map]
  -- code point by code point: an upper-case letter becomes a lower-case one, anything else stays
  congr 1; funext x
  simp only [Function.comp_apply, decide_eq_decide]
  split <;> omega

/-- on `12PassWord!x9` the reported `other` strings are `!` only -/
example : (parse asciiC {} exTable (cpsOfString "12PassWord!x9")).others = [cpsOfString "!"] := by decide +kernel

/-- **the length-indexed counters are tallies**: after any sequence of `_update_counter_len_indexed` calls (one per password and
category: alpha words, masks, digits, other, keyboard walks) on an initially empty counter dict, the Counter filed under length
`n` counts exactly the items of length `n` — each as often as it occurred in all calls together — and nothing of another length;
there is one Counter per length.  (`calls.flatten` = all items in the order the parser met them.) -/
theorem C05_len_indexed_counters (calls : List (List CPs)) (n : Nat) (y : CPs) :
    ((calls.foldl updateLenIndexed []).get n).count y = (if y.length = n then calls.flatten.count y else 0) ∧
    ((calls.foldl updateLenIndexed []).map (·.1)).Nodup := by
  rw [show calls.foldl updateLenIndexed [] = updateLenIndexed [] calls.flatten from List.foldl_flatten.symm]
  refine ⟨?_, update_keys_nodup [] _ (by simp)⟩
  rw [update_count]
  simp [get_nil, count_nil]

/-- non-vacuity / illustration: `sun12tiger345` first (two new lengths per category in one call), then `sun`, `12` again -/
example : (([[cpsOfString "sun", cpsOfString "tiger"], [cpsOfString "sun"]].foldl updateLenIndexed []).get 3).count (cpsOfString "sun") = 2 ∧
    (([[cpsOfString "sun", cpsOfString "tiger"], [cpsOfString "sun"]].foldl updateLenIndexed []).get 5).count (cpsOfString "sun") = 0 := by
  decide +kernel

/-- **the counters of a whole training run are the tallies of the segmentation** (`Trainer.train` = pass 1 + pass 2 of the trainer as
one function of the password list; driven against the real trainer on whole lists, every counter and its insertion order): for each
of the five length-indexed categories the Counter filed under length `n` counts exactly the items of length `n` that the parses of the
list's passwords produced — with the multi-word table of the *whole* list (pass 1 is complete before pass 2 starts) — and nothing else -/
theorem C05_trained_counters (U : UEnv) (cfg : MWCfg) (pws : List CPs) (n : Nat) (y : CPs) :
    let t := Trainer.pass1 U cfg pws
    let tally := fun (items : Parsed → List CPs) => (pws.flatMap fun pw => items (parse U cfg t pw)).count y
    ((Trainer.train U cfg pws).alpha.get n).count y = (if y.length = n then tally (·.alphas) else 0) ∧
    ((Trainer.train U cfg pws).masks.get n).count y = (if y.length = n then tally (·.masks) else 0) ∧
    ((Trainer.train U cfg pws).digits.get n).count y = (if y.length = n then tally (·.digits) else 0) ∧
    ((Trainer.train U cfg pws).other.get n).count y = (if y.length = n then tally (·.others) else 0) ∧
    ((Trainer.train U cfg pws).keyboard.get n).count y = (if y.length = n then tally (·.walks) else 0) :=
  ⟨Trainer.train_len_indexed U cfg (·.alpha) (·.alphas) (fun _ _ => rfl) rfl pws n y,
   Trainer.train_len_indexed U cfg (·.masks) (·.masks) (fun _ _ => rfl) rfl pws n y,
   Trainer.train_len_indexed U cfg (·.digits) (·.digits) (fun _ _ => rfl) rfl pws n y,
   Trainer.train_len_indexed U cfg (·.other) (·.others) (fun _ _ => rfl) rfl pws n y,
   Trainer.train_len_indexed U cfg (·.keyboard) (·.walks) (fun _ _ => rfl) rfl pws n y⟩

/-- table facts the detectors rely on -/
theorem C05_tables : Generated.Tables.minKeyboardRun = 4 ∧
    (∀ p ∈ Generated.Tables.yearPrefixes, p.length = 2) ∧
    (∀ t ∈ Generated.Tables.tldList, t ≠ []) ∧ (∀ c ∈ Generated.Tables.contextList, c ≠ []) := by
  decide +kernel

/-- **which occurrence of a top-level domain makes a string a website** (the search loop of `detect_website`, for every string, every
character classification and every domain of the source's table): the position the search returns is an occurrence of the domain that
ends a host name - it ends the string, or what follows is neither a letter nor a dot - and no occurrence further left does.  It is the
*first* such occurrence from the left: letters that merely look like the domain earlier in the string (`www.community.com`) are passed
over, and the same letters turning up again later as the start of a longer word (`site.com-my.company`) change nothing -/
theorem C05_website_first_host_end (U : Detect.UEnv) (w tld : CPs) (hm : tld ∈ Generated.Tables.tldList) (total : Nat)
    (h : Detect.tldOccurrence U w tld (w.length + 1) (Detect.findSub w tld) = some total) :
    Detect.OccursAt w tld total ∧ Detect.endsHost U w tld total = true ∧
      ∀ k, k < total → Detect.OccursAt w tld k → Detect.endsHost U w tld k = false :=
  Detect.tldSearch_first_host_end U w tld hm total h

/-- the two shapes named above, run through the model with ASCII letters: `.com` of `www.community.com` is found at 13 (not at 3),
`.com` of `site.com-my.company` at 4 (not at 11) -/
example :
    let U : Detect.UEnv := ⟨fun c => (97 ≤ c && c ≤ 122) || (65 ≤ c && c ≤ 90), fun c => 48 ≤ c && c ≤ 57, fun c => 65 ≤ c && c ≤ 90, id, id⟩
    let tld := ".com".toList.map Char.toNat
    let w1 := "www.community.com".toList.map Char.toNat
    let w2 := "site.com-my.company".toList.map Char.toNat
    Detect.tldOccurrence U w1 tld (w1.length + 1) (Detect.findSub w1 tld) = some 13 ∧
    Detect.tldOccurrence U w2 tld (w2.length + 1) (Detect.findSub w2 tld) = some 4 := by
  decide +kernel

/-- ... and it finds one **exactly when** there is one: for a domain of the table, the search comes back with a position if and only if
some occurrence of the domain in the string ends a host name (the loop runs out of neither candidates nor steps before it has seen them
all) -/
theorem C05_website_found_iff (U : Detect.UEnv) (w tld : CPs) (hm : tld ∈ Generated.Tables.tldList) :
    (Detect.tldOccurrence U w tld (w.length + 1) (Detect.findSub w tld)).isSome = true ↔
      ∃ k, Detect.OccursAt w tld k ∧ Detect.endsHost U w tld k = true :=
  Detect.tldSearch_finds_iff U w tld hm

/-- **`detect_website` as a whole**: a section is taken for a website exactly when, in its lower-cased working copy, some top-level domain
of the table has an occurrence that ends a host name - for every string and every character classification -/
theorem C05_website_detected_iff (U : Detect.UEnv) (text : CPs) :
    (Detect.detectWebsite U text).isSome = true ↔
      ∃ tld ∈ Generated.Tables.tldList, ∃ k, Detect.OccursAt (U.lowerS text) tld k ∧ Detect.endsHost U (U.lowerS text) tld k = true :=
  Detect.detectWebsite_isSome_iff U text

/-- **`detect_email` as a whole**: a section is taken for an e-mail address exactly when, in its lower-cased working copy, the *first*
occurrence of some top-level domain of the table has an `@` somewhere in front of its end (later occurrences of the domain are not
looked at - `bob@x.com` is one, `x.com@bob` is one as well, `a.com/b@c.com` is judged by the first `.com`) -/
theorem C05_email_detected_iff (U : Detect.UEnv) (text : CPs) :
    (Detect.detectEmail U text).isSome = true ↔
      ∃ tld ∈ Generated.Tables.tldList, ∃ e0, Detect.findSub (U.lowerS text) tld = some e0 ∧
        ∃ m, Detect.OccursAt ((U.lowerS text).take (e0 + tld.length)) [Detect.cpOf '@'] m :=
  Detect.detectEmail_isSome_iff U text

/-- **which four characters are taken for a year** (the search loop of `detect_year`, for every string, every digit classification and
both prefixes of the source's table): the position returned is an occurrence of `19` / `20` whose four characters are a year - they are
all there, no digit stands in front of them or behind them, the last two are digits - and no occurrence of the prefix further left is.
(That the loop gives up as soon as a candidate has fewer than four characters left loses nothing: every later candidate has fewer.) -/
theorem C05_year_first_year (U : Detect.UEnv) (w pre : CPs) (hm : pre ∈ Generated.Tables.yearPrefixes) (si : Nat)
    (h : Detect.yearScan U w pre (w.length + 1) 0 = some si) :
    Detect.OccursAt w pre si ∧ Detect.yearOk U w si = true ∧
      ∀ k, k < si → Detect.OccursAt w pre k → Detect.yearOk U w k = false :=
  Detect.yearSearch_first_year U w pre hm si h

/-- in `x1987a`, `1987` at 1 is a year; in `119999y2012` the only `19` (at 1) has a digit in front of its four characters and one
behind, so the search for `19` finds nothing; the search for `20` finds `2012` at 7 -/
example :
    let U : Detect.UEnv := ⟨fun c => (97 ≤ c && c ≤ 122) || (65 ≤ c && c ≤ 90), fun c => 48 ≤ c && c ≤ 57, fun c => 65 ≤ c && c ≤ 90, id, id⟩
    let w1 := "x1987a".toList.map Char.toNat
    let w2 := "119999y2012".toList.map Char.toNat
    Detect.yearScan U w1 [49, 57] (w1.length + 1) 0 = some 1 ∧
    Detect.yearScan U w2 [49, 57] (w2.length + 1) 0 = none ∧
    Detect.yearScan U w2 [50, 48] (w2.length + 1) 0 = some 7 := by
  decide +kernel

/-- **`detect_context_sensitive` as a whole**: a context-sensitive string (`#1`, `<3`, `No.1`, ...) is detected in a section exactly
when some string of the source's table occurs in it - `#1` only when its first occurrence is not followed, one character further on,
by a digit (the source's guard against `#1` inside `#123`-like numbers, at the offset the source uses) -/
theorem C05_context_detected_iff (U : Detect.UEnv) (text : CPs) :
    (Detect.detectContext U text).isSome = true ↔
      ∃ rep ∈ Generated.Tables.contextList, ∃ si, Detect.findSub text rep = some si ∧
        (rep == cpsOfString "#1" && decide (si + 3 < text.length) && U.isDigit (text.getD (si + 3) 0)) = false := by
  unfold Detect.detectContext
  rw [List.findSome?_isSome_iff]
  refine exists_congr fun rep => and_congr_right fun hm => ?_
  cases Detect.findSub text rep with
  | none => simp
  | some si =>
    cases (rep == cpsOfString "#1" && decide (si + 3 < text.length) && U.isDigit (text.getD (si + 3) 0)) <;> simp

end Pcfg.C05
