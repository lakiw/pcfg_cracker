import PcfgVerif.Properties.PQCore
import PcfgVerif.Generated.WriterLoops
import PcfgVerif.Lemmas.TrainedWF
/-!
# C01 — guesses are emitted in non-increasing probability order

The statements quantify over every `PAlg` (total preorder + monotone product: what IEEE doubles on
finite non-negative values satisfy, including exact ties, underflow to 0 and denormals), every
well-formed grid (any number of base structures, repeated variable types, single-entry variables),
every tie-breaking of the heap (`Reach` pops *any* element `heappop` may return) and every prefix of
the run.  Flags (`skip_brute`, `all_lower`, PRINCE folder) only change which grid the loader
returns.  The decision fragments inside `findChildren` / `areYouMyChild` / `isTop` are generated from
the current Python source, so these proofs are re-checked against what the code says now.

`C01_order` is the order clause (`C01_order_binary64` for doubles, `C01_trained_order` for what the trainer writes),
`C01_prob_is_product` the clause on the probability attached to a group.  That the emitted sequence is a function of
ruleset and flags is not stated: the model leaves the heap's choice among tied elements open (`C01_top_is_max`,
`C01_progress`) and the order is proved for every choice.
-/
namespace Pcfg.C01
variable {P : Type} [Inhabited P]

/-- every prefix of the emitted sequence is non-increasing in probability -/
theorem C01_order (A : PAlg P) (g : Grid P) (hwf : WF A.toPOps g) (s : PQState)
    (h : Reach A.toPOps g (initNodes g) s) : NonIncreasing A.toPOps g s.popped :=
  (reach_init A g hwf s h).2.1

/-- the run never gets stuck before the queue is empty, whatever the ties -/
theorem C01_progress (A : PAlg P) (g : Grid P) (q : List Node) (hq : q ≠ []) :
    ∃ x, isTop A.toPOps g q x = true :=
  exists_isTop A g q hq

/-- what `heappop` may return is a maximal-probability element of the queue -/
theorem C01_top_is_max (A : PAlg P) (g : Grid P) (q : List Node) (x : Node)
    (h : isTop A.toPOps g q x = true) :
    x ∈ q ∧ ∀ y ∈ q, A.le (nodeProb A.toPOps g y) (nodeProb A.toPOps g x) = true :=
  (isTop_iff _).mp h

/-- the probability attached to an emitted item is the left-to-right product `_find_prob` computes, starting from the
base-structure probability (the definition of `nodeProb`, unfolded) -/
theorem C01_prob_is_product (O : POps P) (g : Grid P) (v : Node) :
    nodeProb O g v = probFold O (g.struct v.b).bp (g.struct v.b).cols v.idx := rfl

/-- four generated constants at the values the model is written with: the child index of `find_children` is the parent's
`+ 1` (`fcStep`; the model's `inc`), the parent index in `_are_you_my_child` the child's `- 1` (`aymcStep`; `dec`),
`initalize_base_structures` starts every index at `0` (`rootIndex`), and `_are_you_my_child` answers `True` when its loop
finds no better parent (`aymcDefault`).  The like steps of `_recursive_restore_prob_order` and `is_parent_around` (`rrStep`,
`rrLeftDefault`, `ipaStep`) are generated too and stated by no theorem. -/
theorem C01_steps : Generated.PQ.fcStep = 1 ∧ Generated.PQ.aymcStep = 1 ∧
    Generated.PQ.rootIndex = 0 ∧ Generated.PQ.aymcDefault = true := by decide

omit [Inhabited P] in
/-- the six rich comparisons of `QueueItem` are mutually consistent (so any correct heap gives the
same notion of "top"); no law of `A` is used: what is pinned is which operator each method of the source applies -/
theorem C01_queueitem_consistent (A : PAlg P) (a b : P) :
    Generated.PQ.queueLe A.toPOps a b = !(Generated.PQ.queueGt A.toPOps a b) ∧
    Generated.PQ.queueGe A.toPOps a b = !(Generated.PQ.queueLt A.toPOps a b) ∧
    Generated.PQ.queueNe A.toPOps a b = !(Generated.PQ.queueEq A.toPOps a b) := by
  simp [Generated.PQ.queueLe, Generated.PQ.queueGt, Generated.PQ.queueGe, Generated.PQ.queueLt,
    Generated.PQ.queueNe, Generated.PQ.queueEq, POps.cmp, POps.lt]

/-- **binary64 instance.**  The order theorem for IEEE-754 doubles with no floating-point hypothesis left:
`sfAlg` is the model of CPython's `<=` and correctly rounded `*` on finite non-negative doubles
(`Model/SoftFloat.lean`, checked bit-for-bit against the interpreter on every run), and its `PAlg` laws
are proved (`SF.roundQ_mono`). -/
theorem C01_order_binary64 (g : Grid Nat) (hwf : WF sfAlg.toPOps g) (s : PQState)
    (h : Reach sfAlg.toPOps g (initNodes g) s) : NonIncreasing sfAlg.toPOps g s.popped :=
  C01_order sfAlg g hwf s h

/-- what the binary64 model is: correctly rounded (error ≤ half a unit in the last place at the scale
chosen for the exact value), 53-bit significands, monotone, and closed on [0, 1] (so products of
probabilities neither overflow nor leave the format) -/
theorem C01_binary64_rounding (N D : Nat) :
    (∃ m, SF.roundQ N D = m * 2 ^ SF.shiftOf (N / D) ∧ m ≤ 2 ^ 53) ∧
    (∀ T, 0 < T → 2 * (N - SF.roundAt N T * T) ≤ T ∧ 2 * (SF.roundAt N T * T - N) ≤ T) ∧
    (∀ N', N ≤ N' → SF.roundQ N D ≤ SF.roundQ N' D) ∧
    (∀ a b, a ≤ SF.one → b ≤ SF.one → SF.mul a b ≤ SF.one) :=
  ⟨⟨_, rfl, SF.roundAt_shift_le N D⟩, fun T hT => SF.roundAt_half N T hT, fun _ h => SF.roundQ_mono D h,
    SF.mul_le_one⟩

/-- non-vacuity of the binary64 instance: the 2×2 grid 0.5 · {0.5, 0.25}² (doubles in units of 2^-1074) … -/
def gB : Grid Nat := [⟨2 ^ 1073, [[2 ^ 1073, 2 ^ 1072], [2 ^ 1073, 2 ^ 1072]]⟩]

/-- … is well-formed for `sfAlg` … -/
theorem wfB : WF sfAlg.toPOps gB := by
  unfold WF WFStruct; decide +kernel

/-- … and its two middle nodes tie exactly (0.0625) -/
example : nodeProb sfAlg.toPOps gB ⟨0, [1, 0]⟩ = 2 ^ 1070 ∧ nodeProb sfAlg.toPOps gB ⟨0, [0, 1]⟩ = 2 ^ 1070 := by
  decide +kernel

/-- the model reproduces three doubles computed by CPython (`0.1*0.1 == 0.010000000000000002`, `5e-324*0.5 == 0.0` (ties to
even), `1.5*5e-324 == 1e-323`): tests, labelled as such; the run-time correspondence compares thousands more -/
example : (SF.ofBits 0x3FB999999999999A).map (fun a => SF.toBits (SF.mul a a)) = some 0x3F847AE147AE147C ∧
    SF.mul 1 (2 ^ 1073) = 0 ∧ SF.mul 3 (2 ^ 1073) = 2 := by decide +kernel

/-- non-vacuity: the concrete tied grid of `PQCore` is well-formed and its full run is ordered -/
example : NonIncreasing natAlg.toPOps Pcfg.Example.g0 Pcfg.Example.final0.popped :=
  C01_order natAlg Pcfg.Example.g0 Pcfg.Example.wf0 _ Pcfg.Example.reach0

/-- **the lines of `Omen/pcfg_omen_prob.txt` are written in non-increasing order.**  The file becomes the column of the `M` variable;
the trainer writes it by iterating `pcfg_omen_prob.most_common()` over a `Counter` it builds itself (three memberships in tables
regenerated from the current `save_omen_rules_to_disk`), and `most_common` — a stable sort by decreasing value, here on binary64 values in units of
2^-1074 — yields a non-increasing list whatever the level densities are (they do not fall with the level number in general).
No column, loader or `WFStruct` is mentioned.  The other list files are covered by `C06_sorted_binary64` / `C07_trained_column_wf`. -/
theorem C01_omen_prob_file_sorted :
    ("pcfg_omen_prob.txt", "pcfg_omen_prob.most_common()") ∈ Generated.WriterLoops.omenLoops ∧
    (Generated.WriterLoops.omenLoops.filter (·.1 == "pcfg_omen_prob.txt")).length = 1 ∧
    ("pcfg_omen_prob", "Counter()") ∈ Generated.WriterLoops.mostCommonContainers ∧
    ∀ (levels : List (Nat × Nat)),
      (mostCommon (⟨0, (· + ·), SF.ratio, fun a b => decide (a ≥ b)⟩ : QOps Nat) levels).Pairwise fun a b => b.2 ≤ a.2 :=
  ⟨by decide +kernel, by decide +kernel, by decide +kernel, mostCommon_nat_sorted⟩

/-- **C01 over binary64 for grids of trainer-written list files, well-formedness proved instead of assumed** (the `M` column, written
from `pcfg_omen_prob`, is not of that form): take any grid each of whose columns is the list of
group probabilities the loader model returns on a list file the trainer wrote for some non-empty counter (`TrainedCols`:
`calculate_probabilities` over binary64, most frequent first; `C07_trained_column_wf`).  Then every prefix of what the queue pops —
under every tie-breaking of the heap — is non-increasing.  Assumed of the number format: `float(repr(x)) == x` (`hround`) and `repr(x)`
is non-empty without white space or line boundary (`hshow`); `TrainedCols` asks clean values (`check_valid`) and no probability equal to the loader's start value `neg1` (`-1`). -/
theorem C01_trained_order (parseP : CPs → Option Nat) (showP : Nat → CPs) (neg1 : Nat)
    (hround : ∀ p, parseP (showP p) = some p) (hshow : ∀ p, CleanProb (showP p)) (g : Grid Nat)
    (hcols : TrainedCols parseP showP neg1 g)
    (s : PQState) (h : Reach sfAlg.toPOps g (initNodes g) s) : NonIncreasing sfAlg.toPOps g s.popped :=
  C01_order_binary64 g (trained_grid_wf parseP showP neg1 hround hshow g hcols) s h

end Pcfg.C01
