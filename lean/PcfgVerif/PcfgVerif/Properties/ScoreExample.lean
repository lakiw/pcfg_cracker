import PcfgVerif.Properties.DetectCore
import PcfgVerif.Lemmas.ScoreCoherent
import PcfgVerif.Lemmas.ScorePromise
import PcfgVerif.Lemmas.TrainedAgree
/-! A concrete instance of the promise (ASCII environment, the password `Ab1`, natural-number
"probabilities") for which all hypotheses of `score_promise` hold. -/
namespace Pcfg.ScoreB.Ex
open Pcfg.Detect Pcfg.ScoreB

/-- decidable equality of parse results, to evaluate `parse` on a concrete password -/
@[instance_reducible] def decParsed : DecidableEq Parsed := fun a b =>
  match a, b with
  | ⟨a1, a2, a3, a4, a5, a6, a7, a8, a9, a10, a11, a12⟩, ⟨b1, b2, b3, b4, b5, b6, b7, b8, b9, b10, b11, b12⟩ =>
    decidable_of_iff (a1 = b1 ∧ a2 = b2 ∧ a3 = b3 ∧ a4 = b4 ∧ a5 = b5 ∧ a6 = b6 ∧ a7 = b7 ∧ a8 = b8 ∧
      a9 = b9 ∧ a10 = b10 ∧ a11 = b11 ∧ a12 = b12) (by simp only [Parsed.mk.injEq])

attribute [local instance] decParsed

/-- `Ab1` -/
def pwEx : CPs := [65, 98, 49]

def upEx (c : Char) : List Char := [c.toUpper]

/-- the scorer's tables: `A2`: ab ↦ 2, `C2`: UL ↦ 3, `D1`: 1 ↦ 5, base structures: A2D1 ↦ 7 -/
def gEx : ScoreG Nat :=
  [("A2", [([97, 98], 2)]), ("C2", [([85, 76], 3)]), ("D1", [([49], 5)]), ("B", [(cpsOfString "A2D1", 7)])]

/-- the guesser's view of the same ruleset (`Agree.term` asks about the guesser's variable names
only, so nothing needs the entry `B`; with it `term_ex` answers for every list name of `gEx`) -/
def VEx : GView Nat where
  E := [("A2", [[['a', 'b']]]), ("C2", [[['U', 'L']]]), ("D1", [[['1']]]), ("B", [[['A', '2', 'D', '1']]])]
  colP := fun l => if l = "A2" then [2] else if l = "C2" then [3] else if l = "D1" then [5]
    else if l = "B" then [7] else []
  bases := [(["A2", "C2", "D1"], 7)]

theorem parse_ex : parse asciiU {} [] pwEx =
    { sections := [([65, 98], some "A2"), ([49], some "D1")], walks := [], emails := [], websites := [],
      years := [], contexts := [], alphas := [[97, 98]], masks := [[85, 76]], digits := [[49]],
      others := [], supported := true, structure' := "A2D1" } := by decide +kernel

theorem score_ex (gt : Nat → Nat → Bool) (limit : Nat) (omenOk : Bool) :
    (score (· * ·) gt 1 0 limit gEx (parse asciiU {} [] pwEx) omenOk).prob = 210 := by
  rw [parse_ex]
  rfl

theorem scalar_ex : ScalarCPs pwEx := by unfold ScalarCPs pwEx; decide

theorem caseInv_ex : CaseInvAll asciiU upEx pwEx := by
  intro a b i c d h1 h2
  have hc : c ∈ pwEx := mem_slice pwEx a b c (List.mem_of_getElem? h1)
  have hd : d = if 65 ≤ c ∧ c ≤ 90 then c + 32 else c := by
    simp only [asciiU, List.getElem?_map, h1, Option.map_some, Option.some.injEq] at h2
    exact h2.symm
  subst hd
  simp only [pwEx, List.mem_cons, List.not_mem_nil, or_false] at hc
  rcases hc with rfl | rfl | rfl <;> decide

theorem coherent_ex : Coherent asciiU pwEx (parse asciiU {} [] pwEx) :=
  parse_coherent asciiU {} [] pwEx (by decide) (asciiU_lenPres _)

theorem look_ex (name : String) (v : CPs) (h : gEx.look 0 name v ≠ 0) :
    (name, v, gEx.look 0 name v) ∈ [("A2", [97, 98], 2), ("C2", [85, 76], 3), ("D1", [49], 5),
      ("B", cpsOfString "A2D1", 7)] := by
  obtain ⟨items, h1, h2⟩ := ScoreG.look_ne_zero h
  generalize gEx.look 0 name v = p at h2 ⊢
  simp only [gEx, List.mem_cons, Prod.mk.injEq, List.not_mem_nil, or_false] at h1
  rcases h1 with ⟨rfl, rfl⟩ | ⟨rfl, rfl⟩ | ⟨rfl, rfl⟩ | ⟨rfl, rfl⟩ <;>
    simp only [List.mem_singleton, Prod.mk.injEq] at h2 <;> obtain ⟨rfl, rfl⟩ := h2 <;> simp

theorem scName_eq (l s : String) (h : scName l = s) (hY : s ≠ "Y") (hX : s ≠ "X") : l = s := by
  unfold scName at h
  split at h
  · exact absurd h.symm hY
  · split at h
    · exact absurd h.symm hX
    · exact h

theorem term_ex (l : String) (v : CPs) (h : gEx.look 0 (scName l) v ≠ 0) :
    ∃ j vals, VEx.E.values l j = some vals ∧ toStr v ∈ vals ∧
      (VEx.colP l)[j]? = some (gEx.look 0 (scName l) v) := by
  have := look_ex _ _ h
  generalize gEx.look 0 (scName l) v = p at this ⊢
  simp only [List.mem_cons, Prod.mk.injEq, List.not_mem_nil, or_false] at this
  rcases this with ⟨h1, rfl, rfl⟩ | ⟨h1, rfl, rfl⟩ | ⟨h1, rfl, rfl⟩ | ⟨h1, rfl, rfl⟩ <;>
    obtain rfl := scName_eq l _ h1 (by decide) (by decide)
  · exact ⟨0, [['a', 'b']], by decide, by decide, by decide⟩
  · exact ⟨0, [['U', 'L']], by decide, by decide, by decide⟩
  · exact ⟨0, [['1']], by decide, by decide, by decide⟩
  · exact ⟨0, [['A', '2', 'D', '1']], by decide, by decide, by decide⟩

theorem masks_ex (n j : Nat) (vals : List Str) (h : VEx.E.values (lbl 'C' n) j = some vals) :
    ∀ m ∈ vals, m.length = n := by
  obtain ⟨gs, h1, h2⟩ := EGrammar.values_some h
  simp only [VEx, List.mem_cons, Prod.mk.injEq, List.not_mem_nil, or_false] at h1
  rcases h1 with ⟨h1, _⟩ | ⟨h1, rfl⟩ | ⟨h1, _⟩ | ⟨h1, _⟩
  · exact absurd (h1 ▸ labelCat_lbl 'C' n) (by decide)
  · obtain rfl := Trainer.lbl_inj 'C' n 2 (h1.trans (by decide))
    cases j with
    | zero => simp at h2; subst h2; simp
    | succ j => simp at h2
  · exact absurd (h1 ▸ labelCat_lbl 'C' n) (by decide)
  · exact absurd (h1 ▸ labelCat_lbl 'C' n) (by decide)

theorem base_ex (labels : List String) (hlab : ∀ l ∈ labels, ∃ text, LabelOK text l)
    (h : gEx.look 0 "B" (cpsOfString (String.join labels)) ≠ 0) :
    ∃ reps, (reps, gEx.look 0 "B" (cpsOfString (String.join labels))) ∈ VEx.bases ∧
      reps = labels.flatMap fun l =>
        match l.toList with
        | 'A' :: n => [l, String.ofList ('C' :: n)]
        | _ => [l] := by
  have hmem := look_ex _ _ h
  generalize gEx.look 0 "B" (cpsOfString (String.join labels)) = p at hmem ⊢
  simp (config := { decide := true }) only [List.mem_cons, Prod.mk.injEq, List.not_mem_nil,
    or_false, false_and, false_or, true_and] at hmem
  obtain ⟨hj, rfl⟩ := hmem
  -- the tokeniser gives the labels back, and on `A2D1` it gives `A2`, `D1`
  have hs := Trainer.split_labels asciiU.isAlpha asciiU_isAlpha_cap asciiU_isAlpha_digit labels hlab
  rw [hj, show Pcfg.splitStructure asciiU.isAlpha (cpsOfString "A2D1") [] = some [[65, 50], [68, 49]]
    by decide] at hs
  have hl : labels = ["A2", "D1"] := by
    have := congrArg (List.map Trainer.strOf) (Option.some.inj hs)
    simpa [Function.comp_def, Trainer.strOf_cps] using this.symm.trans (by decide)
  subst hl
  exact ⟨["A2", "C2", "D1"], by decide, by decide⟩

theorem agree_ex : Agree 0 gEx VEx := ⟨fun l v _ h => term_ex l v h, base_ex, masks_ex⟩

end Pcfg.ScoreB.Ex

namespace Pcfg.Detect

/-! The instance above: the ASCII environment `asciiU`, the password `Ab1`
(sections `A2` "Ab", `D1` "1"; alpha record "Ab" / "ab" / mask "UL"), natural-number "probabilities"
`A2`: ab ↦ 2, `C2`: UL ↦ 3, `D1`: 1 ↦ 5, base structure `A2D1` ↦ 7.  All hypotheses of `score_promise`
hold, the score is 2·3·5·7 = 210 ≠ 0, and the theorem produces the pre-terminal. -/

def natCMon : CMon Nat where
  mul := (· * ·)
  one := 1
  zero := 0
  mul_comm := Nat.mul_comm
  mul_assoc := Nat.mul_assoc
  one_mul := Nat.one_mul
  zero_mul := Nat.zero_mul

open ScoreB.Ex in
/-- every hypothesis of `score_promise` is satisfiable at once, with a non-zero score (`Coherent`, what `C13_coherent` states of
the same parse, is not one of them) -/
example : ScoreB.Ex.pwEx ≠ [] ∧ LenPres asciiU pwEx ∧ ScalarCPs pwEx ∧ CaseInvAll asciiU upEx pwEx ∧
    Agree natCMon.zero gEx VEx ∧ Coherent asciiU pwEx (parse asciiU {} [] pwEx) ∧
    (score natCMon.mul (fun a b => decide (b < a)) natCMon.one natCMon.zero 0 gEx
      (parse asciiU {} [] pwEx) false).prob = 210 :=
  ⟨by decide, asciiU_lenPres _, scalar_ex, caseInv_ex, agree_ex, coherent_ex, score_ex _ _ _⟩

open ScoreB.Ex in
/-- the theorem applied to the instance: `Ab1` is a guess of a pre-terminal of probability 210 -/
example : ∃ (reps : List String) (bp : Nat) (idx : List Nat), (reps, bp) ∈ VEx.bases ∧
    idx.length = reps.length ∧ toStr pwEx ∈ productSpec upEx VEx.E [] (mkPT reps idx) ∧
    probFold ⟨fun a b => decide (a ≤ b), natCMon.mul⟩ bp (reps.map VEx.colP) idx = 210 := by
  have hs : (score natCMon.mul (fun a b => decide (b < a)) natCMon.one natCMon.zero 0 gEx (parse asciiU {} [] pwEx) false).prob
      = 210 := score_ex _ _ _
  have h := score_promise natCMon (fun a b => decide (a ≤ b)) (fun a b => decide (b < a)) 0 asciiU upEx
    {} [] pwEx (by decide) (asciiU_lenPres _) scalar_ex caseInv_ex gEx VEx agree_ex false (by rw [hs]; decide)
  rwa [hs] at h

/-- the same by evaluation: the pre-terminal is `A2[0] C2[0] D1[0]` -/
example : toStr ScoreB.Ex.pwEx ∈
    productSpec ScoreB.Ex.upEx ScoreB.Ex.VEx.E [] (mkPT ["A2", "C2", "D1"] [0, 0, 0]) ∧
    probFold ⟨fun a b => decide (a ≤ b), natCMon.mul⟩ 7 (["A2", "C2", "D1"].map ScoreB.Ex.VEx.colP) [0, 0, 0]
      = 210 := by decide +kernel

end Pcfg.Detect
