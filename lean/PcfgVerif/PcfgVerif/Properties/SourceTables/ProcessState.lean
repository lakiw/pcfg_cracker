import PcfgVerif.Generated.ProcessState
/-! Facts about a table regenerated from the source on which several properties rest: finite, evaluated here once;
the property files state them under the property's own name, where the comment says what they mean there. -/
namespace Pcfg.SourceTables

theorem no_process_wide_state : Generated.ProcessState.processWideState = [] := rfl

end Pcfg.SourceTables
