import PcfgVerif.Generated.PrintSites
/-! Facts about a table regenerated from the source on which several properties rest: finite, evaluated here once;
the property files state them under the property's own name, where the comment says what they mean there. -/
namespace Pcfg.SourceTables

theorem only_print_guess_writes_stdout :
    Generated.PrintSites.guesserNonStderr =
      [("lib_guesser/pcfg_grammar.py", "PcfgGrammar.print_guess", "stdout")] := rfl

end Pcfg.SourceTables
