import PcfgVerif.Generated.CliOptions
/-! Facts about a table regenerated from the source on which several properties rest: finite, evaluated here once;
the property files state them under the property's own name, where the comment says what they mean there. -/
namespace Pcfg.SourceTables

theorem tools_share_the_rules_folder :
    (["trainer.py", "pcfg_guesser.py", "edit_rules.py", "prince_ling.py", "password_scorer.py"].all
      fun p => Generated.CliOptions.rulesDirRoots.any (·.1 == p)) = true ∧
    ∀ a ∈ Generated.CliOptions.rulesDirRoots, ∀ b ∈ Generated.CliOptions.rulesDirRoots, a.2 = b.2 := by
  decide +kernel

theorem session_name_is_the_typed_name :
    Generated.CliOptions.guesserAssign.filter (fun a => a.2.1 == "session_name") =
      [("parse_command_line", "session_name", "args.session")] := by
  decide +kernel

end Pcfg.SourceTables
