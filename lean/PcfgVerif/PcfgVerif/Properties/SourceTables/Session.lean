import PcfgVerif.Generated.Session
/-! Facts about a table regenerated from the source on which several properties rest: finite, evaluated here once;
the property files state them under the property's own name, where the comment says what they mean there. -/
namespace Pcfg.SourceTables

theorem resumes_on_its_own_ruleset :
    Generated.Session.saveConfigSets.filter (fun t => t.2.1 == "rule_name" || t.2.1 == "uuid") =
      [("main", "uuid", "pcfg.ruleset_info['uuid']"), ("create_save_config", "rule_name", "program_info['rule_name']")] ∧
    Generated.Session.loadSaveAssigns.filter (fun t => t.1 == "rule_name") =
      [("rule_name", "save_config.get('rule_info','rule_name')")] ∧
    Generated.Session.uuidMismatchRefuses = true := by
  decide +kernel

theorem limit_only_counts_down_and_stops :
    ∀ k ∈ Generated.Session.limitDependentStatements, k ∈ ["break", "count-down", "pass", "print-stderr", "return"] := by
  decide +kernel

end Pcfg.SourceTables
