import PcfgVerif.Lemmas.EditLemmas
/-! edit_rules (C20): a concrete four-line grammar file

`A3D1\t0.5`, `M\t0.25`, `A1000D2\t0.125`, `Y1X1\t0.0625`; context values of 2 to 5 characters
(totals (4,4), (0,0), (1002,1002), (6,9)). -/
namespace Pcfg

/-- Boolean form of `IsLabel`, to discharge the hypotheses by evaluation -/
def isLabelB : CPs → Bool
  | [] => false
  | c :: ds => isUpperAZ c && ds.all isDigit09

theorem isLabel_of_isLabelB (t : CPs) (h : isLabelB t = true) : IsLabel t := by
  cases t with
  | nil => simp [isLabelB] at h
  | cons c ds =>
    simp only [isLabelB, Bool.and_eq_true, List.all_eq_true] at h
    exact ⟨c, ds, rfl, h.1, h.2⟩

def exA3D1 : List CPs × CPs := ([[0x41, 0x33], [0x44, 0x31]], [0x30, 0x2e, 0x35])
def exM : List CPs × CPs := ([[0x4d]], [0x30, 0x2e, 0x32, 0x35])
def exA1000D2 : List CPs × CPs :=
  ([[0x41, 0x31, 0x30, 0x30, 0x30], [0x44, 0x32]], [0x30, 0x2e, 0x31, 0x32, 0x35])
def exY1X1 : List CPs × CPs :=
  ([[0x59, 0x31], [0x58, 0x31]], [0x30, 0x2e, 0x30, 0x36, 0x32, 0x35])
def exRows : List (List CPs × CPs) := [exA3D1, exM, exA1000D2, exY1X1]

/-- the text really is the file `A3D1\t0.5\nM\t0.25\nA1000D2\t0.125\nY1X1\t0.0625\n` -/
example : gText exRows =
    [0x41, 0x33, 0x44, 0x31, 0x09, 0x30, 0x2e, 0x35, 0x0a,
     0x4d, 0x09, 0x30, 0x2e, 0x32, 0x35, 0x0a,
     0x41, 0x31, 0x30, 0x30, 0x30, 0x44, 0x32, 0x09, 0x30, 0x2e, 0x31, 0x32, 0x35, 0x0a,
     0x59, 0x31, 0x58, 0x31, 0x09, 0x30, 0x2e, 0x30, 0x36, 0x32, 0x35, 0x0a] := by decide +kernel

/-- the hypotheses of the three filter theorems hold for the example -/
theorem exRows_ok : ∀ r ∈ exRows,
    r.1 ≠ [] ∧ (∀ t ∈ r.1, IsLabel t) ∧ IsProbText r.2 ∧ (totalLen (2, 5) r.1).isSome := by
  have hb : ∀ r ∈ exRows, r.1 ≠ [] ∧ (∀ t ∈ r.1, isLabelB t = true) ∧
      ((∀ c ∈ r.2, isUpperAZ c = false ∧ c ≠ 0x09 ∧ c ≠ 0x0a) ∧ lstripWs (rstripWs r.2) = r.2) ∧
      (totalLen (2, 5) r.1).isSome = true := by decide +kernel
  intro r hr
  obtain ⟨h1, h2, h3, h4⟩ := hb r hr
  exact ⟨h1, fun t ht => isLabel_of_isLabelB t (h2 t ht), h3, h4⟩

example : exRows.map (fun r => totalLen (2, 5) r.1) = [some (4, 4), some (0, 0), some (1002, 1002), some (6, 9)] := by decide +kernel

/-- min 4, max 4: `A3D1` (4) and the Markov line `M` (0) stay -/
example : (editLengthLines (2, 5) 4 4 (textLines (gText exRows))).map List.flatten =
    some (gText [exA3D1, exM]) := by decide +kernel

/-- min 5, no max: `A3D1` goes; `A1000D2` is written back with all its digits; `Y1X1` (6..9) stays -/
example : (editLengthLines (2, 5) 5 0 (textLines (gText exRows))).map List.flatten =
    some (gText [exM, exA1000D2, exY1X1]) := by decide +kernel

/-- min 1000, no max: only `M` and `A1000D2` stay, byte for byte -/
example : (editLengthLines (2, 5) 1000 0 (textLines (gText exRows))).map List.flatten =
    some [0x4d, 0x09, 0x30, 0x2e, 0x32, 0x35, 0x0a,
      0x41, 0x31, 0x30, 0x30, 0x30, 0x44, 0x32, 0x09, 0x30, 0x2e, 0x31, 0x32, 0x35, 0x0a] := by
  decide +kernel

example : (exRows.filter fun r => Generated.EditRules.keepLen ((totalLen (2, 5) r.1).getD (0, 0)).1 ((totalLen (2, 5) r.1).getD (0, 0)).2 1000 0) =
    [exM, exA1000D2] := by decide +kernel

/-- the tokenizer does not truncate the four-digit label -/
example : tokenize (gLine exA1000D2.1 exA1000D2.2) = exA1000D2.1 := by decide +kernel

/-- terminal-set filter with `{A, D, M}` and regex filter on the example -/
example : (editTerminalLines [0x41, 0x44, 0x4d] (textLines (gText exRows))).map List.flatten =
    some (gText [exA3D1, exM, exA1000D2]) := by decide +kernel

example : (checkRegexLines (fun s => s.headD 0 == 0x41) (textLines (gText exRows))).map
    List.flatten = some (gText [exA3D1, exA1000D2]) := by decide +kernel

/-- a line without TAB makes `edit_length` raise (the hypothesis `IsProbText`/TAB is needed) -/
example : editLengthLines (1, 1) 0 3 [[0x41, 0x33]] = none := by decide +kernel

/-- a letter without digits where `int()` is applied raises (hypothesis `(totalLen _).isSome`) -/
example : editLengthLines (1, 1) 0 3 [[0x41, 0x09, 0x31]] = none := by decide +kernel

/-- max 8: `Y1X1` goes because its longest guess has 9 characters although its shortest has 6 -/
example : (editLengthLines (2, 5) 0 8 (textLines (gText exRows))).map List.flatten =
    some (gText [exA3D1, exM]) := by decide +kernel

end Pcfg
