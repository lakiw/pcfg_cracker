import PcfgVerif.Lemmas.SessionLemmas
/-! The session state machine at `run us (initLoad f stdin) sched`: the step bound, what C12 and C15 quote about an
early exit and the start state, and runs of the model that show what the hypotheses exclude. -/
namespace Pcfg.Sess

def mainSteps (sched : List Actor) : Nat := sched.count .main

/-- no line of the script is the quit command -/
def NoQuit (stdin : List Ev) : Prop := ∀ t f, Ev.line t f ∈ stdin → t ≠ "q"

/-- progress: once the main actor has been scheduled often enough it has terminated — one main step per line, at
most two per unit (the pop; for a Markov level the generator's last call), one to find the queue empty, one for the
generator's last call in a level restored from the `.omn` file -/
theorem main_terminates_tight (us : List Unit') (f : Files) (stdin : List Ev) (sched : List Actor)
    (hn : (remaining us f).length + 2 * us.length + 2 ≤ mainSteps sched) :
    (run us (initLoad f stdin) sched).main = .finished ∨ (run us (initLoad f stdin) sched).main = .exited :=
  terminated_of_cost us _ sched (Nat.le_trans (cost_init us f stdin) hn)

/-- `C15_continue`, and the last clause of `C12_quit_boundary_saved`, without their hypothesis `hf` -/
theorem exit_resume_exact_all (us : List Unit') (f : Files) (stdin : List Ev) (sched : List Actor)
    (h : (run us (initLoad f stdin) sched).main = .exited) :
    (run us (initLoad f stdin) sched).out ++ remaining us (run us (initLoad f stdin) sched).files
      = remaining us f :=
  (inv_run us f stdin sched).exit_resume h

/-- a new session is a resumed session at position 0 with no Markov remainder -/
theorem initNew_eq (stdin : List Ev) : initNew stdin = initLoad { savPos := some 0 } stdin := by
  rfl

section Examples

private def us3 : List Unit' := [.plain [[1], [2]], .markov [[3], [4], [5]], .plain [[6]]]
private def us4 : List Unit' := [.plain [[1], [2]], .markov [[3], [4], [5]], .plain [[6]], .plain [[7]]]
private def mains (n : Nat) : List Actor := List.replicate n .main

/-- the step count: 6 lines + 3 pops + 1 last generator call of the Markov level + 1 = 11 main steps are needed,
10 are not enough (`main_terminates_tight` allows two steps per unit) -/
example : (run us3 (initNew []) (mains 10)).main = .loopHead 3 ∧
    (run us3 (initNew []) (mains 11)).main = .finished := by decide +kernel

/-- (1) the keyboard thread dies at once on EOF (stdin closed / not a terminal) and is scheduled
first: the session still prints everything.  (With a quit test reading "keyboard thread not alive"
this schedule stops after 0 guesses.) -/
example : (run us3 (initNew [.eof]) (.kbd :: mains 11)).kbd = .dead ∧
    (run us3 (initNew [.eof]) (.kbd :: mains 11)).main = .finished ∧
    (run us3 (initNew [.eof]) (.kbd :: mains 11)).out = fullStream us3 := by decide +kernel

example : NoQuit [.eof] ∧ NoQuit [.line "s" true, .line "h" false, .err] := by
  refine ⟨fun t f h => ?_, fun t f h => ?_⟩
  · simp at h
  · simp at h
    rcases h with ⟨rfl, _⟩ | ⟨rfl, _⟩ <;> decide

/-- first session: `q` is typed while the Markov unit is being printed (after guess `[3]`) -/
private def sess1 : St := run us4 (initNew [.line "q" false]) (mains 5 ++ [.kbd, .kbd] ++ mains 3)
/-- second session, resumed from the files of the first; `q` is handled after the last string of the restored level
was printed and before the generator's last call (which finds nothing): the narrowest window -/
private def sess2 : St := run us4 (initLoad sess1.files [.line "q" false]) (mains 1 ++ [.kbd, .kbd] ++ mains 3)
/-- third session, resumed from the files of the second, runs to the end -/
private def sess3 : St := run us4 (initLoad sess2.files []) (mains 10)

/-- (2) the session exits, the `.omn` file holds the unprinted rest of the level, and the resumed
session prints exactly that rest and then everything after it -/
example : sess1.main = .exited ∧ sess1.out = [[1], [2], [3], [4]] ∧
    sess1.files = { savPos := some 2, omenOpt := true, omn := some [[5]] } ∧
    (run us4 (initLoad sess1.files []) (mains 7)).main = .finished ∧
    (run us4 (initLoad sess1.files []) (mains 7)).out = [[5], [6], [7]] ∧
    sess1.out ++ (run us4 (initLoad sess1.files []) (mains 7)).out = fullStream us4 := by decide +kernel

/-- (3) third cycle: the second session finishes the restored level, drops the option, is quit
later; the third session prints no line of the Markov level again -/
example : sess2.main = .exited ∧ sess2.out = [[5]] ∧ sess2.omenExit = false ∧
    sess2.files = { savPos := some 2, omenOpt := false, omn := some [[5]] } ∧
    sess3.main = .finished ∧ sess3.out = [[6], [7]] ∧
    sess1.out ++ sess2.out ++ sess3.out = fullStream us4 := by decide +kernel

/-- (3') quitting again inside the restored level: the `.omn` file shrinks, nothing is repeated -/
example :
    let a := run us4 (initNew [.line "q" false]) (mains 4 ++ [.kbd, .kbd] ++ mains 3)
    let b := run us4 (initLoad a.files [.line "q" false]) ([.kbd, .kbd] ++ mains 3)
    let c := run us4 (initLoad b.files []) (mains 10)
    a.main = .exited ∧ a.out = [[1], [2], [3]] ∧ a.files.omn = some [[4], [5]] ∧
    b.main = .exited ∧ b.out = [[4]] ∧ b.files = { savPos := some 2, omenOpt := true, omn := some [[5]] } ∧
    c.main = .finished ∧ c.out = [[5], [6], [7]] := by decide +kernel

/-- the hypothesis `omenExit = false` of `Inv.finished_complete` (`C15_then_rest`) is needed: a quit request noticed inside
the LAST unit, a Markov level, makes the main loop find the queue empty and finish without saving;
the rest of the level is then neither printed nor asked for by the save file -/
example :
    let us : List Unit' := [.plain [[1]], .markov [[2], [3], [4]]]
    let s := run us (initNew [.line "q" false]) (mains 4 ++ [.kbd, .kbd] ++ mains 3)
    s.main = .finished ∧ s.omenExit = true ∧ s.out = [[1], [2], [3]] ∧
    s.files = { savPos := some 0, omenOpt := false, omn := some [[4]] } ∧
    s.out ≠ remaining us { savPos := some 0 } := by decide +kernel

/-- the hypothesis `hf` of `Inv.no_replay` (`C15_no_replay`) is needed: an option without an `.omn` file is never removed -/
example :
    let f : Files := { savPos := some 0, omenOpt := true, omn := none }
    let s := run us3 (initLoad f [.line "q" false]) ([.kbd, .kbd] ++ mains 2)
    s.main = .exited ∧ s.omenExit = false ∧ s.files.omenOpt = true := by decide +kernel

/-- `initLoad` with the option set and an empty `.omn` remainder: the first main step (the generator call that finds
nothing) reaches the loop head and drops the option -/
example : (initLoad { savPos := some 1, omenOpt := true, omn := some [] } []).main = .omen 1 [] true ∧
    (run us3 (initLoad { savPos := some 1, omenOpt := true, omn := some [] } []) (mains 1)).main = .loopHead 1 ∧
    (run us3 (initLoad { savPos := some 1, omenOpt := true, omn := some [] } []) (mains 1)).files.omenOpt = false := by
  decide +kernel

/-- a status request whose printing fails kills the keyboard thread but does not stop the session;
a `q` whose status printing fails is still honoured -/
example : (run us3 (initNew [.line "s" true]) ([.kbd, .kbd] ++ mains 10)).out = fullStream us3 ∧
    (run us3 (initNew [.line "q" true]) ([.kbd, .kbd] ++ mains 10)).main = .exited := by decide +kernel

end Examples

end Pcfg.Sess
