import PcfgVerif.Properties.SourceTables.CliOptions
import PcfgVerif.Lemmas.ExpandLemmas
import PcfgVerif.Lemmas.TrainedCounts
import PcfgVerif.Lemmas.ProbsLemmas
import PcfgVerif.Lemmas.GridAdopt
import PcfgVerif.Generated.PrintSites
/-!
# C17 — PRINCE-LING emits the ruleset's words most-probable-first, up to the size asked

PRINCE-LING runs the same `PcfgQueue` and the same `create_guesses` over the ruleset's `Prince` grammar (one variable
per structure, `C<n>` inserted after `A<n>` by the loader), so order and exactly-once are what `reach_init` says of that
grid (`C17_order`, `C17_each_once`, as in C01/C02), and each word list is `C04`'s product.  What is specific is the
`--size` loop of `create_prince_wordlist`, modelled here (`princeLoop`): it is the session's `--limit` loop
(`princeLoop_eq_sessionLoop`), so `--size` is exact where `--limit` is (`princeLoop_size_on`, from `sessionLoop_limit_on`
of C09; `C17_size` is its reading under `ExactLimit`).  That `-o FILE` receives the same lines as standard output
(`save_to_file` swaps the output function) is not modelled: the harness runs the real program both ways and compares.
-/
namespace Pcfg

/-- `create_prince_wordlist(pcfg, max_size)` over the sequence of popped pre-terminals -/
def princeLoop (gen : PT → Option Int → ERes) : List PT → Option Nat → Nat → List Str
  | [], _, _ => []
  | pt :: rest, none, num =>
    let r := gen pt none
    r.out ++ princeLoop gen rest none (num + r.count)
  | pt :: rest, some mx, num =>
    if Generated.Expand.princeGoOn num mx then
      let r := gen pt (some ((mx : Int) - (num : Int)))
      r.out ++ princeLoop gen rest (some mx) (num + r.count)
    else []

namespace C17

/-- the unbounded list is the concatenation of the word lists of the popped pre-terminals -/
theorem C17_unbounded (gen : PT → Option Int → ERes) (pts : List PT) (num : Nat) :
    princeLoop gen pts none num = pts.flatMap fun pt => (gen pt none).out := by
  induction pts generalizing num with
  | nil => rfl
  | cons pt rest ih => simp [princeLoop, ih]

/-- the `--size` loop is the session's `--limit` loop, whatever the generator: with `num` of `mx` words written, what
follows is what `CrackingSession.run` writes under the limit `mx − num` (the test `num < max_size` before a
pre-terminal is the test `limit <= 0` after the one before it), and nothing once `mx` is reached -/
theorem princeLoop_eq_sessionLoop (gen : PT → Option Int → ERes) (pts : List PT) (mx num : Nat) :
    princeLoop gen pts (some mx) num =
      if num < mx then sessionLoop gen pts (some ((mx : Int) - (num : Int))) else [] := by
  induction pts generalizing num with
  | nil => simp [princeLoop, sessionLoop]
  | cons pt rest ih =>
    by_cases h : num < mx
    · have hl : limTruthy (some ((mx : Int) - (num : Int))) = true := by simp [limTruthy]; omega
      generalize hc : (gen pt (some ((mx : Int) - (num : Int)))).count = c
      have hhit : Generated.Expand.sessionHit ((mx : Int) - (num : Int) - (c : Int)) = decide (mx ≤ num + c) := by
        rw [Frag.sessionHit_eq]; exact decide_eq_decide.mpr (by omega)
      simp only [princeLoop, sessionLoop, Frag.princeGoOn_eq, h, hl, hc, hhit, ih, decide_true,
        Option.getD_some]
      by_cases hk : mx ≤ num + c
      · simp [Nat.not_lt.mpr hk]
      · simp only [hk, Nat.lt_of_not_le hk, if_true]
        congr 3
        omega
    · simp [princeLoop, Frag.princeGoOn_eq, h]

/-- `--size n` from the start, for a generator that honours a limit exactly on the pre-terminals popped (as
`create_guesses` does where no lookup raises, `C09_limit_preterminal`): the first `n` words of the unbounded list -/
theorem princeLoop_size_on (gen : PT → Option Int → ERes) (pts : List PT)
    (hgen : ∀ pt ∈ pts, ∀ n : Nat, 1 ≤ n →
      gen pt (some (n : Int)) = ⟨(gen pt none).out.take n, min n (gen pt none).out.length, false⟩) (n : Nat) :
    princeLoop gen pts (some n) 0 = (pts.flatMap fun pt => (gen pt none).out).take n := by
  rw [princeLoop_eq_sessionLoop, ← sessionLoop_none]
  cases n with
  | zero => rfl
  | succ n => simpa using sessionLoop_limit_on gen pts hgen (n + 1) (by omega)

/-- C17 (`--size N`): at most `N` words, namely the first `N` of the unbounded list - for a generator that honours a
limit exactly (`ExactLimit gen`: asked of every pre-terminal, the empty one included, on which the model's
`createGuesses` raises; so `gen` stands for a generator that never raises, not for `createGuesses` itself, of which
`princeLoop_size_on` speaks) -/
theorem C17_size (gen : PT → Option Int → ERes) (hgen : ExactLimit gen) (pts : List PT) (n : Nat) :
    princeLoop gen pts (some n) 0 = (princeLoop gen pts none 0).take n ∧
    (princeLoop gen pts (some n) 0).length ≤ n := by
  have h := princeLoop_size_on gen pts (fun pt _ => (hgen pt).2) n
  rw [← C17_unbounded gen pts 0] at h
  exact ⟨h, by rw [h, List.length_take]; exact Nat.min_le_left _ _⟩

variable {P : Type} [Inhabited P]

/-- most-probable-first, for the PRINCE grid like for any other (C01) -/
theorem C17_order (A : PAlg P) (g : Grid P) (hwf : WF A.toPOps g) (s : PQState)
    (h : Reach A.toPOps g (initNodes g) s) : NonIncreasing A.toPOps g s.popped :=
  (reach_init A g hwf s h).2.1

/-- each (type, group[, mask group]) combination once, when the queue has run empty (C02) -/
theorem C17_each_once (A : PAlg P) (g : Grid P) (hwf : WF A.toPOps g) (s : PQState)
    (h : Reach A.toPOps g (initNodes g) s) (hq : s.queue = []) : s.popped.Perm (allNodes g) :=
  (reach_init A g hwf s h).2.2.2.1 hq

/-- **binary64 instance** of order and exactly-once for the PRINCE grid (see `C01_order_binary64`) -/
theorem C17_binary64 (g : Grid Nat) (hwf : WF sfAlg.toPOps g) (s : PQState)
    (h : Reach sfAlg.toPOps g (initNodes g) s) :
    NonIncreasing sfAlg.toPOps g s.popped ∧ (s.queue = [] → s.popped.Perm (allNodes g)) :=
  ⟨C17_order sfAlg g hwf s h, C17_each_once sfAlg g hwf s h⟩

/-- stdout of `prince_ling.py`: the only call site that can write there is `print_guess` -/
theorem C17_only_print_guess_writes_stdout :
    Generated.PrintSites.princeNonStderr =
      [("lib_guesser/pcfg_grammar.py", "PcfgGrammar.print_guess", "stdout")] := rfl

/-- the option glue of `prince_ling.py` (regenerated from the source): ruleset name, output file, `--size` (an `int`) and
`--all_lower` reach the program as typed -/
theorem C17_cli_passes_options :
    Generated.CliOptions.princeAssign =
      [("parse_command_line", "rule_name", "args.rule"),
       ("parse_command_line", "output_file", "args.output"),
       ("parse_command_line", "max_size", "args.size"),
       ("parse_command_line", "skip_case", "args.skip_case")] ∧
    ("--size", "program_info['max_size']", "int", "'store'", "None", "None") ∈ Generated.CliOptions.princeOptions ∧
    ("--all_lower", "program_info['skip_case']", "None", "'store_const'", "not program_info['skip_case']", "'skip_case'") ∈
      Generated.CliOptions.princeOptions :=
  ⟨rfl, by decide +kernel, by decide +kernel⟩

/-- **the PRINCE grammar of a trained ruleset** (`Prince/grammar.txt` is `calculate_probabilities` of the trainer's PRINCE counter):
the count filed under a label is the number of sections carrying it over the parses of all passwords of the list - one per section -
and what `calculate_probabilities` lists for a counter are exactly the pairs (value, count / total) of its items (each once,
most frequent first: `C06_each_once`, `C06_sorted_stable`). -/
theorem C17_trained_prince_grammar (U : Detect.UEnv) (cfg : Detect.MWCfg) (pws : List CPs) (l : String) :
    Trainer.sget (Trainer.train U cfg pws).prince l =
      (pws.map fun pw => (Detect.parse U cfg (Trainer.pass1 U cfg pws) pw).labels.countP (· == l)).sum ∧
    ∀ (items : List (String × Rat)) (v : String) (p : Rat),
      (v, p) ∈ calcProbs ratOps items ↔ ∃ c, (v, c) ∈ items ∧ p = ratOps.div c (totalCount ratOps items) :=
  ⟨Trainer.train_prince U cfg pws l, fun items v p => calcProbs_mem ratOps items v p⟩

/-- **every tool works on the same `Rules` folder** (regenerated from the five programs): the trainer, the guesser, `edit_rules.py`,
`prince_ling.py` and the scorer each build the ruleset directory from one and the same expression for their own location - so a ruleset
one tool wrote or edited under a name is the ruleset another tool reads under that name, from whatever directory or through whatever link
either was started -/
theorem C17_tools_share_the_rules_folder :
    (["trainer.py", "pcfg_guesser.py", "edit_rules.py", "prince_ling.py", "password_scorer.py"].all
      fun p => Generated.CliOptions.rulesDirRoots.any (·.1 == p)) = true ∧
    ∀ a ∈ Generated.CliOptions.rulesDirRoots, ∀ b ∈ Generated.CliOptions.rulesDirRoots, a.2 = b.2 :=
  SourceTables.tools_share_the_rules_folder

end C17
end Pcfg
