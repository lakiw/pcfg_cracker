import PcfgVerif.Lemmas.DetectKeyboard
import PcfgVerif.Lemmas.DetectPieces
import PcfgVerif.Lemmas.DetectAlpha
/-! Worked examples of the detectors in concrete ASCII environments: the hypotheses of the theorems are satisfiable and their
conclusions say something. -/
namespace Pcfg.Detect

/-- ASCII-only stand-in for CPython's Unicode database -/
def asciiU : UEnv where
  isAlpha c := (decide (65 ≤ c) && decide (c ≤ 90)) || (decide (97 ≤ c) && decide (c ≤ 122))
  isDigit c := decide (48 ≤ c) && decide (c ≤ 57)
  isUpper c := decide (65 ≤ c) && decide (c ≤ 90)
  lowerS s := s.map fun c => if 65 ≤ c ∧ c ≤ 90 then c + 32 else c
  lowerPy s := s.map fun c => if 65 ≤ c ∧ c ≤ 90 then c + 32 else c

/-- the hypothesis `LenPres` is satisfiable: it holds for every password under `asciiU` -/
theorem asciiU_lenPres (pw : CPs) : LenPres asciiU pw := by
  intro a b
  simp [asciiU]

/-- what the tokeniser of `grammar.txt` needs of `isalpha`: true on `A`–`Z`, false on `0`–`9` -/
theorem asciiU_isAlpha_cap (c : Nat) (h1 : 65 ≤ c) (h2 : c ≤ 90) : asciiU.isAlpha c = true := by simp [asciiU, h1, h2]

theorem asciiU_isAlpha_digit (c : Nat) (h1 : 48 ≤ c) (h2 : c ≤ 57) : asciiU.isAlpha c = false := by simp [asciiU]; omega

/-- the loop theorem instantiated: the four detector passes of the pipeline keep a tiling of `pw` -/
example (pw : CPs) (h : pw ≠ []) (f1 f2 f3 f4 : Nat) :
    let s1 := (splitLoop (detectEmail asciiU) .skipFirst f1 [] [(pw, none)] []).1
    let s2 := (splitLoop (detectWebsite asciiU) .skipFirst f2 [] s1 []).1
    let s3 := (splitLoop (detectYear asciiU) .recheck f3 [] s2 []).1
    let s4 := (splitLoop (detectContext asciiU) .recheck f4 [] s3 []).1
    TilesFrom asciiU pw 0 s4 := by
  intro s1 s2 s3 s4
  have hl := asciiU_lenPres pw
  have h1 : TilesFrom asciiU pw 0 s1 :=
    splitLoop_tiles asciiU _ _ (detectEmail_ok asciiU) pw hl f1 [] _ [] (tilesFrom_single asciiU pw h)
  have h2 : TilesFrom asciiU pw 0 s2 :=
    splitLoop_tiles asciiU _ _ (detectWebsite_ok asciiU) pw hl f2 [] _ [] h1
  have h3 : TilesFrom asciiU pw 0 s3 :=
    splitLoop_tiles asciiU _ _ (detectYear_ok asciiU) pw hl f3 [] _ [] h2
  exact splitLoop_tiles asciiU _ _ (detectContext_ok asciiU) pw hl f4 [] _ [] h3

example : detectEmail asciiU (cpsOfString "bob@gmail.com1") =
    some ([(cpsOfString "bob@gmail.com", some "E"), (cpsOfString "1", none)],
      (cpsOfString "bob@gmail.com", cpsOfString "gmail.com")) := by decide +kernel
-- e-mail: lower-casing only affects the reported item, the section keeps its case
example : detectEmail asciiU (cpsOfString "Bob@Gmail.COM") =
    some ([(cpsOfString "Bob@Gmail.COM", some "E")],
      (cpsOfString "bob@gmail.com", cpsOfString "gmail.com")) := by decide +kernel
-- website with prefix and path
example : detectWebsite asciiU (cpsOfString "xhttp://www.google.com/abc") =
    some ([(cpsOfString "x", none), (cpsOfString "http://www.google.com/abc", some "W")],
      (cpsOfString "http://www.google.com/abc", cpsOfString "google.com",
        some (cpsOfString "http://www."))) := by decide +kernel
-- website: the W section is the lower-cased text; ".com" inside "community" is skipped
example : detectWebsite asciiU (cpsOfString "ABwww.Google.com12") =
    some ([(cpsOfString "AB", none), (cpsOfString "www.google.com", some "W"), (cpsOfString "12", none)],
      (cpsOfString "www.google.com", cpsOfString "google.com", some (cpsOfString "www."))) := by decide +kernel
example : detectWebsite asciiU (cpsOfString "a.community.com") =
    some ([(cpsOfString "a.community.com", some "W")],
      (cpsOfString "a.community.com", cpsOfString "community.com", none)) := by decide +kernel
example : detectWebsite asciiU (cpsOfString "a.community.comX") = none := by decide +kernel
-- years: a fifth digit disqualifies; the first prefix in the table wins
example : detectYear asciiU (cpsOfString "ab19991") = none := by decide +kernel
example : detectYear asciiU (cpsOfString "x2012y1999") =
    some ([(cpsOfString "x2012y", none), (cpsOfString "1999", some "Y1")], cpsOfString "1999") := by decide +kernel
example : (splitLoop (detectYear asciiU) .recheck 100 [] [(cpsOfString "x2012y1999", none)] []) =
    ([(cpsOfString "x", none), (cpsOfString "2012", some "Y1"), (cpsOfString "y", none),
      (cpsOfString "1999", some "Y1")], [cpsOfString "1999", cpsOfString "2012"]) := by decide +kernel
example : detectContext asciiU (cpsOfString "i<3you#1") =
    some ([(cpsOfString "i<3you", none), (cpsOfString "#1", some "X1")], cpsOfString "#1") := by decide +kernel
example : detectContext asciiU (cpsOfString "#12") =
    some ([(cpsOfString "#1", some "X1"), (cpsOfString "2", none)], cpsOfString "#1") := by decide +kernel
example : (splitLoop (detectContext asciiU) .recheck 100 [] [(cpsOfString "i<3you#1", none)] []).1 =
    [(cpsOfString "i<3", some "X1"), (cpsOfString "you", none), (cpsOfString "#1", some "X1")] := by decide +kernel
/-- ASCII-only stand-in for the Unicode database -/
def asciiEnv : UEnv where
  isAlpha c := (65 ≤ c && c ≤ 90) || (97 ≤ c && c ≤ 122)
  isDigit c := 48 ≤ c && c ≤ 57
  isUpper c := 65 ≤ c && c ≤ 90
  lowerS s := s.map fun c => if 65 ≤ c && c ≤ 90 then c + 32 else c
  lowerPy s := s.map fun c => if 65 ≤ c && c ≤ 90 then c + 32 else c

/-- `"pass1qaz"` -/
def pass1qaz : CPs := [112, 97, 115, 115, 49, 113, 97, 122]

theorem ex_walk : detectKeyboardWalk asciiEnv pass1qaz =
    ([([112, 97, 115, 115], none), ([49, 113, 97, 122], some "K4")], [[49, 113, 97, 122]]) := by decide +kernel

example : detectKeyboardWalk asciiEnv pass1qaz =
    ([([112, 97, 115, 115], none), ([49, 113, 97, 122], some "K4")], [[49, 113, 97, 122]]) := ex_walk
example : pass1qaz ≠ [] := by decide +kernel
example : TilesFrom asciiEnv pass1qaz 0
    [([112, 97, 115, 115], none), ([49, 113, 97, 122], some "K4")] := by
  -- projecting before the rewrite would make the elaborator evaluate `TilesFrom … (detectKeyboardWalk …).1` by `whnf`
  have := detectKeyboardWalk_out asciiEnv pass1qaz (by decide +kernel)
  rw [ex_walk] at this
  exact this.tiles

example : lbl 'K' 4 = "K4" := by decide +kernel
example : [[49, 113, 97, 122]] =
    (([([112, 97, 115, 115], none), ([49, 113, 97, 122], some "K4")] : List Sec).filter
      (fun s => s.2.isSome)).map (·.1) :=
  by have := detectKeyboardWalk_out asciiEnv pass1qaz (by decide +kernel); rw [ex_walk] at this; exact this.found

/-- `1qaz` is a walk on some layout, is long enough and interesting -/
example : 4 ≤ ([49, 113, 97, 122] : CPs).length ∧ interesting asciiEnv [49, 113, 97, 122] = true ∧
    ∃ b, ∀ i, i + 1 < ([49, 113, 97, 122] : CPs).length →
      adjacentOn b (([49, 113, 97, 122] : CPs).getD i 0) (([49, 113, 97, 122] : CPs).getD (i + 1) 0) :=
  (detectKeyboardWalk_out asciiEnv pass1qaz (by decide +kernel)).sound [49, 113, 97, 122] (by rw [ex_walk]; simp)

/-- the adjacency relation is not trivially true: `1` and `z` are not neighbours on the first layout,
`1`–`q` are -/
theorem ex_findKey : (findKey 49, findKey 113, findKey 122) =
    ([⟨0, 1, 0⟩, ⟨1, 1, 0⟩], [⟨0, 2, 0⟩], [⟨0, 4, 0⟩]) := by decide +kernel
example : (findKey 49, findKey 113, findKey 122) =
    ([⟨0, 1, 0⟩, ⟨1, 1, 0⟩], [⟨0, 2, 0⟩], [⟨0, 4, 0⟩]) := ex_findKey
example : nextOn (findKey 49) (findKey 113) = [0] ∧ nextOn (findKey 49) (findKey 122) = [] := by decide +kernel
example : adjacentOn 0 49 113 :=
  ⟨⟨0, 1, 0⟩, ⟨0, 2, 0⟩, by decide +kernel, by decide +kernel, rfl, rfl, by decide +kernel⟩
example : ¬ adjacentOn 0 49 122 := by
  rintro ⟨p, q, hp, hq, _, _, h⟩
  have hp' : p = ⟨0, 1, 0⟩ ∨ p = ⟨1, 1, 0⟩ := by
    simpa [(Prod.mk.inj ex_findKey).1] using hp
  have hq' : q = ⟨0, 4, 0⟩ := by
    simpa [(Prod.mk.inj (Prod.mk.inj ex_findKey).2).2] using hq
  subst hq'
  rcases hp' with rfl | rfl <;> revert h <;> decide

/-- `interesting` really filters: all-letter `qwerty` is rejected, and the conclusion of
`interesting_classes` on `1qaz` -/
example : interesting asciiEnv [113, 119, 101, 114, 116, 121] = false := by decide +kernel
example : detectKeyboardWalk asciiEnv [113, 119, 101, 114, 116, 121] =
    ([([113, 119, 101, 114, 116, 121], none)], []) := by decide +kernel
example := interesting_classes asciiEnv [49, 113, 97, 122] (by decide +kernel)

/-- ASCII-only stand-in for CPython's Unicode database -/
def asciiC : UEnv where
  isAlpha c := decide ((65 ≤ c ∧ c ≤ 90) ∨ (97 ≤ c ∧ c ≤ 122))
  isDigit c := decide (48 ≤ c ∧ c ≤ 57)
  isUpper c := decide (65 ≤ c ∧ c ≤ 90)
  lowerS s := s.map fun c => if 65 ≤ c ∧ c ≤ 90 then c + 32 else c
  lowerPy s := s.map fun c => if 65 ≤ c ∧ c ≤ 90 then c + 32 else c

theorem asciiC_lenPres (pw : CPs) : LenPres asciiC pw := by
  intro a b; simp [asciiC]

/-- `pass` and `word` each seen 5 times (= the default threshold) -/
def exTable : MWTable := [(cpsOfString "pass", 5), (cpsOfString "word", 5)]

theorem ex_detectAlpha : detectAlpha asciiC {} exTable (cpsOfString "12PassWord!") =
    some ([(cpsOfString "12", none), (cpsOfString "Pass", some "A4"), (cpsOfString "Word", some "A4"),
           (cpsOfString "!", none)],
          ([cpsOfString "pass", cpsOfString "word"], [cpsOfString "ULLL", cpsOfString "ULLL"])) := by decide +kernel
example : TilesFrom asciiC (cpsOfString "12PassWord!") 0
    [(cpsOfString "12", none), (cpsOfString "Pass", some "A4"), (cpsOfString "Word", some "A4"),
     (cpsOfString "!", none)] :=
  (detectAlpha_ok asciiC {} exTable _ _ _ (by decide +kernel) (asciiC_lenPres _) ex_detectAlpha).2

/-- without table entries the run stays one word -/
example : detectAlpha asciiC {} [] (cpsOfString "12PassWord!") =
    some ([(cpsOfString "12", none), (cpsOfString "PassWord", some "A8"), (cpsOfString "!", none)],
          ([cpsOfString "password"], [cpsOfString "ULLLULLL"])) := by decide +kernel
/-- no letters: nothing found -/
example : detectAlpha asciiC {} exTable (cpsOfString "123!") = none := by decide +kernel
theorem ex_detectDigits : detectDigits asciiC (cpsOfString "ab123cd") =
    some ([(cpsOfString "ab", none), (cpsOfString "123", some "D3"), (cpsOfString "cd", none)],
          cpsOfString "123") := by decide +kernel
example : TilesFrom asciiC (cpsOfString "ab123cd") 0
    [(cpsOfString "ab", none), (cpsOfString "123", some "D3"), (cpsOfString "cd", none)] :=
  (detectDigits_ok asciiC _ _ _ (by decide +kernel) (asciiC_lenPres _) ex_detectDigits).2

/-- only the first maximal run is taken -/
example : detectDigits asciiC (cpsOfString "ab123cd45") =
    some ([(cpsOfString "ab", none), (cpsOfString "123", some "D3"), (cpsOfString "cd45", none)],
          cpsOfString "123") := by decide +kernel
example : detectDigits asciiC (cpsOfString "abc") = none := by decide +kernel
/-- `mwParse`: two words, three words (recursive branch), unknown word, known whole word -/
example : mwParse {} exTable (cpsOfString "password") =
    (true, [cpsOfString "pass", cpsOfString "word"]) := by decide +kernel
example : mwParse {} exTable (cpsOfString "passwordpass") =
    (true, [cpsOfString "pass", cpsOfString "word", cpsOfString "pass"]) := by decide +kernel
example : mwParse {} exTable (cpsOfString "passwords") = (false, [cpsOfString "passwords"]) := by decide +kernel
example : mwParse {} exTable (cpsOfString "pass") = (true, [cpsOfString "pass"]) := by decide +kernel
example : 1 < (mwParse {} exTable (cpsOfString "passwordpass")).2.length := by decide +kernel
/-- `mwTrain` over a short history: `password` once, `pass` twice, `word` once; `abc` is too short -/
example : [cpsOfString "password1", cpsOfString "Pass12word", cpsOfString "abc", cpsOfString "7pass!"].foldl
      (fun t p => mwTrain asciiC {} t p) [] =
    [(cpsOfString "password", 1), (cpsOfString "pass", 2), (cpsOfString "word", 1)] := by decide +kernel
example : otherDetection [(cpsOfString "ab", none), (cpsOfString "123", some "D3"), (cpsOfString "!!", none)] =
    ([(cpsOfString "ab", some "O2"), (cpsOfString "123", some "D3"), (cpsOfString "!!", some "O2")],
     [cpsOfString "ab", cpsOfString "!!"]) := by decide +kernel

end Pcfg.Detect
