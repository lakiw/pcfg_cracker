import PcfgVerif.Properties.ProbsCore
import PcfgVerif.Properties.SourceTables.ProcessState
import PcfgVerif.Generated.ProcessState
import PcfgVerif.Generated.CliOptions
import PcfgVerif.Lemmas.WrittenLists
/-!
# C06 — the saved grammar is the relative-frequency model of the segmentation

`calcProbs` is `calculate_probabilities` (stable sort by decreasing count, `count / total`), generic in
the number type; `ratOps` is exact arithmetic.  Over doubles each written number is the correctly
rounded quotient (compared bit for bit by the harness) and the sum differs from 1 by rounding only.
Which items reach which counter is C05; that the files hold these lists is checked file by file.

The written list: `C06_each_once`, `C06_prob`, `C06_sorted_stable`, `C06_sum_one`; over doubles `C06_sorted_binary64`.  The
Markov line and the coverage: `C06_markov`, `C06_markov_edges`, `C06_markov_always_listed`, `C06_cli_passes_coverage`.
That only the structures of supported parses reach the base-structure counter is `Trainer.train_base`; the raw structure list
and that two runs write the same bytes are the harness's part.  A counter with a tie, worked through: `Properties/ProbsCore.lean`.
-/
namespace Pcfg.C06
variable {Q α : Type}

/-- every item of the counter is written exactly once: the values written are a permutation of the counter's -/
theorem C06_each_once (O : QOps Q) (items : List (α × Q)) :
    ((calcProbs O items).map (·.1)).Perm (items.map (·.1)) := by
  unfold calcProbs
  rw [List.map_map]
  exact (ProbsLemmas.mostCommon_perm O items).map _

/-- with probability count / list total -/
theorem C06_prob (O : QOps Q) (items : List (α × Q)) (v : α) (p : Q) :
    (v, p) ∈ calcProbs O items ↔ ∃ c, (v, c) ∈ items ∧ p = O.div c (totalCount O items) :=
  calcProbs_mem O items v p

/-- ordered from most to least frequent, items of equal count in the counter's insertion order (for any total, transitive
comparison of counts) -/
theorem C06_sorted_stable [DecidableEq Q] (O : QOps Q)
    (htot : ∀ a b, O.ge a b = true ∨ O.ge b a = true)
    (htrans : ∀ a b c, O.ge a b = true → O.ge b c = true → O.ge a c = true)
    (items : List (α × Q)) :
    ((mostCommon O items).Pairwise fun a b => O.ge a.2 b.2 = true) ∧
    ∀ c, (mostCommon O items).filter (fun it => decide (it.2 = c)) = items.filter (fun it => decide (it.2 = c)) := by
  -- the sort is stable (`mostCommon_filter`), and the items of count `c` are in order as they stand
  refine ⟨mostCommon_sorted O htot htrans items, fun c => mostCommon_filter O htot htrans items _ ?_⟩
  rw [List.pairwise_filter]
  apply List.pairwise_of_forall
  intro a b ha hb
  show O.ge a.2 b.2 = true
  rw [of_decide_eq_true ha, of_decide_eq_true hb]
  exact (htot c c).elim id id

/-- a list with a positive total sums to 1 and is non-increasing (exact arithmetic) -/
theorem C06_sum_one (items : List (α × Rat)) (hpos : 0 < totalCount ratOps items) :
    ((calcProbs ratOps items).map (·.2)).sum = 1 ∧
    (calcProbs ratOps items).Pairwise fun a b => b.2 ≤ a.2 := by
  refine ⟨calcProbs_sum_one items (Rat.ne_of_gt hpos), ?_⟩
  unfold calcProbs
  rw [List.pairwise_map]
  exact (mostCommon_rat_sorted items).imp fun h => ProbsLemmas.div_le_div_right_rat h hpos

set_option linter.unusedVariables false in
/-- with the pseudo-count `N/coverage − N` next to `N` counted structures the Markov structure has the share `1 − coverage`
(when structures with e-mail / website parts are left out the counts sum to less than `N`: `C06_markov_always_listed` has the
denominator as written); `hc1` is not used -/
theorem C06_markov (n cov : Rat) (hn : 0 < n) (hc0 : 0 < cov) (hc1 : cov < 1) :
    (n / cov - n) / (n + (n / cov - n)) = 1 - cov := by
  have hq : n / cov ≠ 0 := Rat.ne_of_gt (Rat.mul_pos hn (Rat.inv_pos.mpr hc0))
  -- the total is `n / cov`, of which the pseudo-count is the share `1 - cov`
  have hs : n / cov - n = (1 - cov) * (n / cov) := by
    rw [Rat.sub_eq_add_neg 1, Rat.add_mul, Rat.one_mul, Rat.neg_mul, Rat.mul_comm cov,
      Rat.div_mul_cancel (Rat.ne_of_gt hc0), ← Rat.sub_eq_add_neg]
  rw [Rat.add_comm n, Rat.sub_add_cancel, hs, Rat.mul_div_cancel hq]

/-- `withMarkov` (the coverage branch of `run_trainer`): no Markov structure for coverage 1, only the Markov structure for coverage 0 -/
theorem C06_markov_edges (O : QOps Q) (sub : Q → Q → Q) (one : Q) (isOne isZero : Q → Bool) (mKey : α)
    (coverage n : Q) (items : List (α × Q)) :
    (isOne coverage = true → withMarkov O sub one isOne isZero mKey coverage n items = items) ∧
    (isOne coverage = false → isZero coverage = true →
      withMarkov O sub one isOne isZero mKey coverage n items = [(mKey, one)]) :=
  ⟨fun h => if_pos h, fun h1 h0 => (if_neg (ne_true_of_eq_false h1)).trans (if_pos h0)⟩

/-- `calculate_probabilities` over binary64: counts are naturals, `count / total` is the correctly rounded
quotient `SF.ratio` (the model of CPython's `/`, compared bit for bit on every run by the `fp.ratio` stream) -/
def sfQOps : QOps Nat := ⟨0, (· + ·), SF.ratio, fun a b => decide (a ≥ b)⟩

/-- **binary64 instance**: the doubles written to a list file are non-increasing in file order — rounding
`count / total` to 53 bits never inverts the order of two counts (`SF.ratio_mono`).  This is the
"group probabilities non-increasing in file order" half of the well-formedness that C01/C02/C08 assume
of a ruleset, established for what the trainer writes.  The divisor is arbitrary (`C06_sorted_binary64_any_total`), so the
base-structure list, whose total contains the fractional Markov pseudo-count, is covered as well. -/
theorem C06_sorted_binary64 (items : List (α × Nat)) :
    (calcProbs sfQOps items).Pairwise fun a b => b.2 ≤ a.2 :=
  mostCommon_ratio_sorted (totalCount sfQOps items) items

theorem C06_sorted_binary64_any_total (total : Nat) (items : List (α × Nat)) :
    ((mostCommon sfQOps items).map fun it => (it.1, SF.ratio it.2 total)).Pairwise fun a b => b.2 ≤ a.2 :=
  mostCommon_ratio_sorted total items

/-- three quotients as CPython computes them (tests, labelled as such): `1/3`, `2/3`, `1/10` -/
example : SF.toBits (SF.ratio 1 3) = 0x3FD5555555555555 ∧ SF.toBits (SF.ratio 2 3) = 0x3FE5555555555555 ∧
    SF.toBits (SF.ratio 1 10) = 0x3FB999999999999A := by decide +kernel

/-- **the coverage the user asked for is the coverage `withMarkov` receives** (command-line glue of `trainer.py`, regenerated from
the source on every run): `--coverage`, `--ngram` and `--alphabet` are parsed with their own type, default to the program's
defaults, and reach `program_info` by one plain assignment from the parsed value — no `or`, no second default that would turn an
explicit `--coverage 0` (only the Markov structure) into the default coverage. -/
theorem C06_cli_passes_coverage :
    Generated.CliOptions.trainerAssign.filter (fun a => a.2.1 == "coverage") =
      [("parse_command_line", "coverage", "args.coverage")] ∧
    Generated.CliOptions.trainerAssign.filter (fun a => a.2.1 == "ngram") = [("parse_command_line", "ngram", "args.ngram")] ∧
    Generated.CliOptions.trainerAssign.filter (fun a => a.2.1 == "alphabet_size") =
      [("parse_command_line", "alphabet_size", "args.alphabet")] ∧
    ("--coverage", "program_info['coverage']", "float", "'store'", "None", "None") ∈ Generated.CliOptions.trainerOptions ∧
    ("--ngram", "program_info['ngram']", "int", "'store'", "None", "None") ∈ Generated.CliOptions.trainerOptions ∧
    ("--alphabet", "program_info['alphabet_size']", "int", "'store'", "None", "None") ∈ Generated.CliOptions.trainerOptions ∧
    Generated.CliOptions.trainerAssign.all (fun a => a.2.1 != "<dynamic>") = true := by
  decide +kernel

/-- **the Markov structure is always written when the coverage is strictly between 0 and 1 — however small its pseudo-count**: for a
training list of n ≥ 1 valid passwords the line `M` of `grammar.txt` carries `(n/coverage − n) / (Σ counts + n/coverage − n)`,
and the pseudo-count `n/coverage − n` is positive (for a high coverage and a short list it is well below 1: it is a weight, not
a count, and must not be filtered like one) -/
theorem C06_markov_always_listed (cov : Rat) (h0 : 0 < cov) (h1 : cov < 1) (n : Nat) (hn : 0 < n) (b : Trainer.SCtr) :
    (cpsOfString "M", ((n : Rat) / cov - n) / (((Trainer.toQ b).map (·.2)).sum + ((n : Rat) / cov - n))) ∈ Trainer.baseList cov n b ∧
    0 < (n : Rat) / cov - n := by
  refine ⟨?_, Trainer.rat_markov_pos _ _ (Rat.natCast_pos.mpr hn) h0 h1⟩
  unfold Trainer.baseList
  rw [Trainer.withMarkov_rat cov n h0, if_neg (Rat.ne_of_lt h1)]
  refine List.mem_map.mpr ⟨("M", _), (calcProbs_mem ratOps _ "M" _).mpr
    ⟨_, List.mem_append_right _ (List.mem_singleton_self _), rfl⟩, ?_⟩
  simp only [totalCount_rat, List.map_append, List.sum_append, List.map_singleton, List.sum_singleton]
  rfl

/-- **nothing outlives a call except the objects a caller holds**: the list, regenerated from the four library packages, of every
module-level or class-level mutable container, cache decorator or cache call (`functools.lru_cache`, `cache`), mutable or computed default
argument and `global` statement in `lib_guesser`, `lib_trainer`, `lib_scorer`, `lib_princeling` is empty.
C06 needs it because `calcProbs` is a function of the counter alone: a written list cannot depend on a ruleset trained earlier in the same
process -/
theorem C06_no_process_wide_state : Generated.ProcessState.processWideState = [] :=
  SourceTables.no_process_wide_state

end Pcfg.C06
