import PcfgVerif.Properties.SourceTables.CliOptions
import PcfgVerif.Properties.SourceTables.Session
import PcfgVerif.Properties.PQRestore
import PcfgVerif.Lemmas.GridRestore
import PcfgVerif.Lemmas.TrainedWF
/-!
# C08 — resuming a saved session loses nothing and repeats at most the tied group

The whole saved state of the queue is the pair (`min_probability`, `max_probability`); the session
saves `max_probability` = probability of the pre-terminal that was popped but not generated.  So
a resumed run is a run from `restoreNodes g m mn`; the theorems compare one such run with the uninterrupted run from
`initNodes g` (one save and resume; sessions quit and resumed a second time are exercised by the harness).  `mn` is `0.0` in the
code and never changes (`hmin`: nothing is below it).

`C08_resume` says what a run from the rebuilt queue emits (`C08_resume_binary64`, `C08_trained_resume`: for doubles, for
what the trainer writes); `C08_nothing_lost` and `C08_repeats_only_tied` compare it with the uninterrupted run.  The
rest are facts of the source as it stands: the comparison operators of the restore walk (`C08_operators`), the refusal
on a uuid mismatch, and which file a session is saved to and read from.  That the probability written to the `.sav` file
reads back as the same double is not modelled: the harness resumes real sessions with `--load` from the file the program wrote.
-/
namespace Pcfg.C08
variable {P : Type} [Inhabited P]

/-- a resumed run emits exactly the nodes whose probability is ≤ the saved value: each once (also in
every intermediate state), nothing above the saved position, in non-increasing order -/
theorem C08_resume (A : PAlg P) (g : Grid P) (hwf : WF A.toPOps g) (m mn : P)
    (hmin : ∀ v, ValidNode g v → A.lt (nodeProb A.toPOps g v) mn = false)
    (s : PQState) (h : Reach A.toPOps g (restoreNodes A.toPOps g m mn) s) :
    (s.popped ++ s.queue).Nodup ∧
    NonIncreasing A.toPOps g s.popped ∧
    (∀ v ∈ s.popped ++ s.queue, ValidNode g v ∧ A.le (nodeProb A.toPOps g v) m = true) ∧
    (s.queue = [] → s.popped.Perm ((allNodes g).filter fun v => A.le (nodeProb A.toPOps g v) m)) := by
  have ⟨h1, h2, h3, h4, _⟩ := reach_summary A g (restoreSys A g m) _
    (restoreNodes_perm A g hwf m mn hmin) (restoreSys_children_ok A g hwf m)
    (restoreSys_le A g hwf m) s h
  exact ⟨h1, h2, fun v hv => (mem_restoreSys_all A g m v).mp (h3 v hv), h4⟩

/-- **binary64 instance** (see `C01_order_binary64`): the resume theorem for IEEE-754 doubles; the saved
minimum is `0.0`, below which no double product of probabilities lies, so `hmin` is discharged too -/
theorem C08_resume_binary64 (g : Grid Nat) (hwf : WF sfAlg.toPOps g) (m : Nat)
    (s : PQState) (h : Reach sfAlg.toPOps g (restoreNodes sfAlg.toPOps g m 0) s) :
    (s.popped ++ s.queue).Nodup ∧
    NonIncreasing sfAlg.toPOps g s.popped ∧
    (∀ v ∈ s.popped ++ s.queue, ValidNode g v ∧ sfAlg.le (nodeProb sfAlg.toPOps g v) m = true) ∧
    (s.queue = [] → s.popped.Perm ((allNodes g).filter fun v => sfAlg.le (nodeProb sfAlg.toPOps g v) m)) :=
  C08_resume sfAlg g hwf m 0 (by intro v _; simp [POps.lt, sfAlg]) s h

/-- **C08 over binary64 for grids of trainer-written list files, well-formedness proved instead of assumed** (`TrainedCols`, which the
`M` column does not satisfy, see `C01_trained_order`): a run
resumed from any saved probability emits exactly the pre-terminals at or below it, once each, in order -/
theorem C08_trained_resume (parseP : CPs → Option Nat) (showP : Nat → CPs) (neg1 : Nat)
    (hround : ∀ p, parseP (showP p) = some p) (hshow : ∀ p, CleanProb (showP p)) (g : Grid Nat)
    (hcols : TrainedCols parseP showP neg1 g) (m : Nat)
    (s : PQState) (h : Reach sfAlg.toPOps g (restoreNodes sfAlg.toPOps g m 0) s) :
    (s.popped ++ s.queue).Nodup ∧
    NonIncreasing sfAlg.toPOps g s.popped ∧
    (∀ v ∈ s.popped ++ s.queue, ValidNode g v ∧ sfAlg.le (nodeProb sfAlg.toPOps g v) m = true) ∧
    (s.queue = [] → s.popped.Perm ((allNodes g).filter fun v => sfAlg.le (nodeProb sfAlg.toPOps g v) m)) :=
  C08_resume_binary64 g (trained_grid_wf parseP showP neg1 hround hshow g hcols) m s h

/-- nothing is lost: everything the uninterrupted run `u` emits from position `k` on is emitted by
the run resumed from `m = prob (u.popped[k])`, once that run has emptied its queue -/
theorem C08_nothing_lost (A : PAlg P) (g : Grid P) (hwf : WF A.toPOps g) (mn : P)
    (hmin : ∀ v, ValidNode g v → A.lt (nodeProb A.toPOps g v) mn = false)
    (u : PQState) (hu : Reach A.toPOps g (initNodes g) u)
    (k : Nat) (x : Node) (hx : u.popped[k]? = some x)
    (r : PQState) (hr : Reach A.toPOps g (restoreNodes A.toPOps g (nodeProb A.toPOps g x) mn) r)
    (hdone : r.queue = [])
    (j : Nat) (hj : k ≤ j) (y : Node) (hy : u.popped[j]? = some y) : y ∈ r.popped := by
  have ⟨_, hord, hvalid, _⟩ := reach_init A g hwf u hu
  refine ((C08_resume A g hwf _ mn hmin r hr).2.2.2 hdone).symm.subset
    (List.mem_filter.mpr ⟨?_, hord.getElem?_le A hj hx hy⟩)
  exact (mem_allNodes g y).mpr (hvalid y (List.mem_append_left _ (List.mem_of_getElem? hy)))

/-- the only repeats are pre-terminals tied with the saved position: a node emitted before position
`k` that the resumed run touches again has probability equal to the saved one -/
theorem C08_repeats_only_tied (A : PAlg P) (g : Grid P) (hwf : WF A.toPOps g) (mn : P)
    (hmin : ∀ v, ValidNode g v → A.lt (nodeProb A.toPOps g v) mn = false)
    (u : PQState) (hu : Reach A.toPOps g (initNodes g) u)
    (k : Nat) (x : Node) (hx : u.popped[k]? = some x)
    (r : PQState) (hr : Reach A.toPOps g (restoreNodes A.toPOps g (nodeProb A.toPOps g x) mn) r)
    (i : Nat) (hi : i < k) (y : Node) (hy : u.popped[i]? = some y) (hyr : y ∈ r.popped ++ r.queue) :
    A.eqv (nodeProb A.toPOps g y) (nodeProb A.toPOps g x) = true := by
  have h1 := (reach_init A g hwf u hu).2.1.getElem?_le A (Nat.le_of_lt hi) hy hx
  have h2 := ((C08_resume A g hwf _ mn hmin r hr).2.2.1 y hyr).2
  simp [POps.eqv, h1, h2]

omit [Inhabited P] in
/-- the comparison operators the proof depends on, as they stand in the source today
(`is_parent_around` must use `<=`: with `<` a child of the re-emitted saved node is restored twice); the guard is evaluated with
`max_prob = min_prob = b` so that one bound shows both comparisons: strict against the lower bound, `<=` against the upper -/
theorem C08_operators (O : POps P) (a b : P) :
    (Generated.PQ.ipaBody O 1 a b = some true ↔ O.le a b = true) ∧
    (Generated.PQ.restoreGuard O a b b false = .save ↔ (O.lt a b = false ∧ O.le a b = true)) := by
  constructor
  · rw [ipaBody_eq]
    simp
  · simp only [Generated.PQ.restoreGuard, POps.cmp]
    by_cases h1 : O.lt a b = true <;> simp [h1]

/-- non-vacuity: resuming the tied 2×2 grid at probability 64 re-emits both tied nodes and their child -/
example : Pcfg.Example.finalR.popped.Perm
    ((allNodes Pcfg.Example.g0).filter fun v => natAlg.le (nodeProb natAlg.toPOps Pcfg.Example.g0 v) 64) :=
  (C08_resume natAlg _ Pcfg.Example.wf0 64 0 Pcfg.Example.hmin0 _ Pcfg.Example.reachR).2.2.2 rfl

/-- a session is refused when the ruleset's UUID differs from the saved one, and the save file is read
before the grammar is built (so the saved flags decide what is loaded): facts of `pcfg_guesser.main`
regenerated from the source; the refusal itself is exercised by the harness on the real program -/
theorem C08_uuid_refused :
    Generated.Session.uuidMismatchRefuses = true ∧ Generated.Session.loadSaveBeforeGrammar = true := by
  decide

/-- the saved position is filed under the session name as typed: the only assignment to `program_info['session_name']`
in `pcfg_guesser.py` is `args.session` (regenerated from the source) - two sessions with different names never resume from each
other's save file -/
theorem C08_session_name_is_the_typed_name :
    Generated.CliOptions.guesserAssign.filter (fun a => a.2.1 == "session_name") =
      [("parse_command_line", "session_name", "args.session")] :=
  SourceTables.session_name_is_the_typed_name

/-- ... and the file is that name with the suffix `.sav` appended, nothing taken away (the one expression of `main` that names it,
regenerated from the source): names with dots keep their last component -/
theorem C08_save_file_name_expression :
    Generated.Session.savNameExpr = "program_info['session_name']+'.sav'" ∧
    (Generated.Session.sessionNameExprs.filter (fun e => e.1 == "pcfg_guesser.py")) =
      [("pcfg_guesser.py", "main", "program_info['session_name']+'.sav'")] := by decide +kernel

/-- **a session resumes on the ruleset it was started on** (regenerated from `pcfg_guesser.py`): the name stored in the save file is the
rule name the first run was given, as given (`-r group/name` included), `load_save` takes the rule name from that entry and from nowhere
else, and a ruleset whose uuid differs from the saved one is refused -/
theorem C08_resumes_on_its_own_ruleset :
    Generated.Session.saveConfigSets.filter (fun t => t.2.1 == "rule_name" || t.2.1 == "uuid") =
      [("main", "uuid", "pcfg.ruleset_info['uuid']"), ("create_save_config", "rule_name", "program_info['rule_name']")] ∧
    Generated.Session.loadSaveAssigns.filter (fun t => t.1 == "rule_name") =
      [("rule_name", "save_config.get('rule_info','rule_name')")] ∧
    Generated.Session.uuidMismatchRefuses = true :=
  SourceTables.resumes_on_its_own_ruleset

end Pcfg.C08

namespace Pcfg.Example

example : finalR.popped.Perm
    ((allNodes g0).filter fun v => natAlg.le (nodeProb natAlg.toPOps g0 v) 64) :=
  (C08.C08_resume natAlg g0 wf0 64 0 hmin0 finalR reachR).2.2.2 rfl

end Pcfg.Example
