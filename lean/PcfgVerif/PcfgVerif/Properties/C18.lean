import PcfgVerif.Properties.SourceTables.ProcessState
import PcfgVerif.Generated.ProcessState
import PcfgVerif.Properties.OmenTrainCore
import PcfgVerif.Lemmas.OmenProb
import PcfgVerif.Lemmas.OmenSim
import PcfgVerif.Lemmas.OmenCount
/-!
# C18 — the saved OMEN keyspace is the number of guesses a level really produces

`levelKeyspace` is what `calc_omen_keyspace` adds up for one level (`recKeyspace` = `_rec_calc_keyspace`
without its memo table; `ksRow` = the tabulated form), `levelsCount` the tally of the trainer's third pass,
`omenProbs` the loop that fills `pcfg_omen_prob` with `(count / N) / keyspace`.  `recKeyspace` answers 0 for an (n−1)-gram
that is no key, where `_rec_calc_keyspace` would raise `KeyError`: `TTables.WF` does not ask that the successor of a stored
transition be a key (`AlphabetLookup.parse` inserts every window of a password, so it is one in a trained table; no theorem
states it).

The keyspace: `C18_keyspace` (`_from_files`: over the tables the loader builds), per block `C18_block`, `C18_memo`, the
listing `C18_listing`.  The probability: the tally `C18_third_pass_counts` / `_total`, a line of the file
`C18_saved_probability`, `C18_counted_level_listed`, `C18_mass_le_one`, the order of the lines over binary64
`C18_prob_file_sorted_binary64`.  From the training list: `C18_trained` (`_any_smoothing`).  Left to the correspondence
run: that the trainer's functions are these (its files are compared with the model line by line, and with what the real
generator emits).
-/
namespace Pcfg.C18
open Omen

/-- the recorded keyspace of a level = the number of guesses the generator emits at that level (all of them:
from some number of calls on) -/
theorem C18_keyspace (t : TTables) (hwf : t.WF) (level : Nat)
    (s0 : CState) (hs : t.toTables.start = some s0) :
    ∃ N, ∀ fuel, N ≤ fuel → (t.toTables.enumFrom level fuel s0).length = t.levelKeyspace level := by
  obtain ⟨E, N, h, _, _, h4⟩ := emitted_spec t hwf.good level s0 hs
  exact ⟨N, fun fuel hf => by rw [h fuel hf, h4]⟩

/-- `C18_keyspace` on the bigram tables of `OmenTrainCore` -/
example (level : Nat) :
    ∃ N, ∀ fuel, N ≤ fuel →
      (exTT.toTables.enumFrom level fuel ⟨⟨0, 0, 0, 0⟩, []⟩).length = exTT.levelKeyspace level :=
  C18_keyspace exTT exTT_wf level _ exTT_start

/-- the same over the files: the generator run over the tables the loader builds from `IP.level` / `CP.level` / `LN.level`
emits exactly `levelKeyspace level` strings at that level -/
theorem C18_keyspace_from_files (t : TTables) (hwf : t.WF) (level : Nat) :
    ∃ tb, t.loadTables = some tb ∧ ∀ s0, tb.start = some s0 →
      ∃ N, ∀ fuel, N ≤ fuel → (tb.enumFrom level fuel s0).length = t.levelKeyspace level := by
  obtain ⟨tb, hload, _, h⟩ := emitted_spec_files t hwf.good level
  refine ⟨tb, hload, fun s0 hs0 => ?_⟩
  obtain ⟨E, N, h, _, _, h4⟩ := h s0 hs0
  exact ⟨N, fun fuel hf => by rw [h fuel hf, h4]⟩

/-- per (length, initial n-gram) block the recursion counts the parse trees -/
theorem C18_block (t : TTables) (hwf : t.WF) (len : Nat) (ip : Str) (level : Nat) :
    t.recKeyspace len ip level = (t.toTables.m.allTrees len ip level).length :=
  (recKeyspace_eq_strs t hwf.good len ip level).trans (List.length_map _)

set_option linter.unusedVariables false in
/-- the tabulated form `ksRow` (what the memo table of `_rec_calc_keyspace` amounts to) holds the value of the
recursion at every level up to `maxL` (`hwf` and `hip` are not needed: `lookupRow_ksRow`) -/
theorem C18_memo (t : TTables) (hwf : t.WF) (maxL len : Nat) (ip : Str) (level : Nat)
    (hl : level ≤ maxL) (hip : ip ∈ t.entries.map (·.key)) :
    lookupRow (t.ksRow maxL len) ip level = t.recKeyspace len ip level :=
  lookupRow_ksRow t maxL len ip level hl

/-- every level `calc_omen_keyspace` lists carries its full keyspace (also the one at which the limit is
exceeded), levels are consecutive, and only the last one may exceed the limit.  (`calcKeyspace` lists a level at which
no (initial n-gram, length) pair fits with keyspace 0; the code's `Counter` then has no key for it.) -/
theorem C18_listing (t : TTables) (maxKeyspace fuel first : Nat) :
    (∀ p ∈ t.calcKeyspace maxKeyspace fuel first, p.2 = t.levelKeyspace p.1) ∧
    (t.calcKeyspace maxKeyspace fuel first).map (·.1) =
      (List.range (t.calcKeyspace maxKeyspace fuel first).length).map (· + first) ∧
    (∀ (i : Nat) p, (t.calcKeyspace maxKeyspace fuel first)[i]? = some p →
      i + 1 < (t.calcKeyspace maxKeyspace fuel first).length → p.2 ≤ maxKeyspace) := by
  obtain ⟨h1, h2, h3⟩ := calcKeyspace_spec t maxKeyspace fuel first
  refine ⟨h1, ?_, h3⟩
  rw [h2, List.range'_eq_map_range]
  exact List.map_congr_left fun _ _ => Nat.add_comm ..

/-- the third pass: the count filed under a level is the number of passwords of the list that
`find_omen_level` puts at that level; by `C11_guesser` these are the passwords the generator emits there -/
theorem C18_third_pass_counts (t : TTables) (pws : List Str) (k : Option Nat) :
    ctrGet (t.levelsCount pws) k = pws.countP (fun pw => t.trainerLevel pw == k) :=
  ctrGet_levelsCount t pws k

/-- the counts of `omen_pws_per_level.txt` (the line for −1 included) add up to the number of passwords read -/
theorem C18_third_pass_total (t : TTables) (pws : List Str) : ((t.levelsCount pws).map (·.2)).sum = pws.length := by
  have h : ∀ c : LCtr, ((pws.foldl (fun c pw => bump (t.trainerLevel pw) c) c).map (·.2)).sum =
      (c.map (·.2)).sum + pws.length := by
    induction pws with
    | nil => simp
    | cons pw r ih => intro c; rw [List.foldl_cons, ih, bump_total, List.length_cons]; omega
  exact (h []).trans (Nat.zero_add _)

/-- **the saved probability.**  Every line `(level, p)` of `pcfg_omen_prob` (exact arithmetic; the list of the
training passwords is the one all three passes read, so `num_valid_passwords = pws.length`): the generator's
enumeration of that level is complete after some `N` steps, it is not empty, and `p` is the fraction of the
training passwords the generator emits at that level, divided by the number of strings it emits there. -/
theorem C18_saved_probability (t : TTables) (hwf : t.WF) (s0 : CState) (hs : t.toTables.start = some s0)
    (pws : List Str) (maxKeyspace fuel first : Nat) (level : Nat) (p : Rat)
    (h : (level, p) ∈ omenProbs ratNOps (t.calcKeyspace maxKeyspace fuel first) (t.levelsCount pws) pws.length) :
    ∃ N, (∀ fuel', N ≤ fuel' → t.toTables.enumFrom level fuel' s0 = t.toTables.enumFrom level N s0) ∧
      (t.toTables.enumFrom level N s0).length ≠ 0 ∧
      p = ((pws.countP (fun pw => decide (pw ∈ t.toTables.enumFrom level N s0)) : Nat) : Rat) / (pws.length : Rat)
            / ((t.toTables.enumFrom level N s0).length : Rat) := by
  obtain ⟨E, N, hE, _, h3, h4⟩ := emitted_spec t hwf.good level s0 hs
  obtain ⟨h1, rfl⟩ := settles hE
  exact ⟨N, h1, saved_probability_of t level _ h3 h4 pws maxKeyspace fuel first p h⟩

/-- **C18 from the training list to the generator**, no hypothesis about tables or files left but the generator's
`tb.start = some s0` (`start = none` is `_find_first_object` raising): `trainTTables` is the OMEN
half of the trainer as a function of the password list (`Model/OmenCount.lean`; `lvl` = `_calc_level`, only its clamp is used),
`loadTables` the guesser's loader on the files written from it.  Every line `(level, p)` of `pcfg_omen_prob`: the files load, and
for the generator run over the loaded tables the level is enumerated completely after finitely many steps, is not empty, holds
exactly `levelKeyspace level` strings (the number the trainer saved), and `p` is the fraction of the training passwords among them
divided by their number. -/
theorem C18_trained (lvl : Nat → Nat → Nat → Nat) (alphabetSize ngram minLength maxLength maxLevel : Nat)
    (hn : 2 ≤ ngram) (hl : ∀ a b c, lvl a b c ≤ maxLevel) (pws : List Str) (maxKeyspace fuel first : Nat)
    (level : Nat) (p : Rat) :
    let t := trainTTables lvl alphabetSize ngram minLength maxLength maxLevel pws
    (level, p) ∈ omenProbs ratNOps (t.calcKeyspace maxKeyspace fuel first) (t.levelsCount pws) pws.length →
    ∃ tb, t.loadTables = some tb ∧ ∀ s0, tb.start = some s0 →
      ∃ N, (∀ fuel', N ≤ fuel' → tb.enumFrom level fuel' s0 = tb.enumFrom level N s0) ∧
        (tb.enumFrom level N s0).length = t.levelKeyspace level ∧ (tb.enumFrom level N s0).length ≠ 0 ∧
        p = ((pws.countP (fun pw => decide (pw ∈ tb.enumFrom level N s0)) : Nat) : Rat) / (pws.length : Rat)
              / ((tb.enumFrom level N s0).length : Rat) := by
  intro t h
  have hg := trainTTables_good lvl alphabetSize ngram minLength maxLength maxLevel hn hl pws
  obtain ⟨tb, hload, _, hE⟩ := emitted_spec_files t hg level
  refine ⟨tb, hload, fun s0 hs0 => ?_⟩
  obtain ⟨E, N, hE, _, h3, h4⟩ := hE s0 hs0
  obtain ⟨h1, rfl⟩ := settles hE
  obtain ⟨h5, h6⟩ := saved_probability_of t level _ h3 h4 pws maxKeyspace fuel first p h
  exact ⟨N, h1, h4, h5, h6⟩

/-- `C18_trained` for every value the logarithm of the smoothing could return (`lvlOf raw 10`: only the clamp of `_calc_level`,
regenerated from the source in `C11_calc_level_clamps`, matters): no hypothesis besides the n-gram size ≥ 2 and, for the generator
clause, `tb.start = some s0` -/
theorem C18_trained_any_smoothing (raw : Nat → Nat → Nat → Int) (alphabetSize ngram minLength maxLength : Nat)
    (hn : 2 ≤ ngram) (pws : List Str) (maxKeyspace fuel first : Nat) (level : Nat) (p : Rat) :
    let t := trainTTables (lvlOf raw 10) alphabetSize ngram minLength maxLength 10 pws
    (level, p) ∈ omenProbs ratNOps (t.calcKeyspace maxKeyspace fuel first) (t.levelsCount pws) pws.length →
    ∃ tb, t.loadTables = some tb ∧ ∀ s0, tb.start = some s0 →
      ∃ N, (∀ fuel', N ≤ fuel' → tb.enumFrom level fuel' s0 = tb.enumFrom level N s0) ∧
        (tb.enumFrom level N s0).length = t.levelKeyspace level ∧ (tb.enumFrom level N s0).length ≠ 0 ∧
        p = ((pws.countP (fun pw => decide (pw ∈ tb.enumFrom level N s0)) : Nat) : Rat) / (pws.length : Rat)
              / ((tb.enumFrom level N s0).length : Rat) :=
  C18_trained (lvlOf raw 10) alphabetSize ngram minLength maxLength 10 hn (lvlOf_le raw 10) pws maxKeyspace fuel first level p

set_option linter.unusedVariables false in
/-- no counted level is dropped for an empty keyspace: a level at which a training password lies has a
non-empty keyspace (`levelKeyspace_pos`), so if `calc_omen_keyspace` lists it, it receives a probability, and a
positive one (`s0` and `hs` are not needed) -/
theorem C18_counted_level_listed (t : TTables) (hwf : t.WF) (s0 : CState) (hs : t.toTables.start = some s0)
    (pws : List Str) (maxKeyspace fuel first : Nat) (pw : Str) (hpw : pw ∈ pws) (level : Nat)
    (hl : t.trainerLevel pw = some level)
    (hlisted : level ∈ (t.calcKeyspace maxKeyspace fuel first).map (·.1)) :
    ∃ p : Rat, (level, p) ∈ omenProbs ratNOps (t.calcKeyspace maxKeyspace fuel first) (t.levelsCount pws) pws.length ∧ 0 < p := by
  obtain ⟨⟨l, k⟩, hmem, rfl⟩ := List.mem_map.mp hlisted
  refine omenProbs_pos _ _ _ l k hmem ?_ ?_ (List.length_pos_of_mem hpw)
  · have hk : k = t.levelKeyspace l := (calcKeyspace_spec t maxKeyspace fuel first).1 (l, k) hmem
    exact hk ▸ levelKeyspace_pos t hwf.good l hl
  · rw [ctrGet_levelsCount]
    exact List.countP_pos_iff.mpr ⟨pw, hpw, by simp [hl]⟩

/-- **the Markov column is a (sub)probability distribution over Markov guesses**: every guess of a listed level
carries that level's probability, so the mass of the listed levels is `Σ p·keyspace` over the lines of `pcfg_omen_prob`;
for a non-empty training list it is at most 1 (being the fraction of the passwords lying at those levels: `mass_le_one`). -/
theorem C18_mass_le_one (t : TTables) (pws : List Str) (hne : pws ≠ []) (maxKeyspace fuel first : Nat) :
    ((t.calcKeyspace maxKeyspace fuel first).filterMap fun lk => if lk.2 == 0 then none
      else some (ratNOps.divNat (ratNOps.ratio (ctrGet (t.levelsCount pws) (some lk.1)) pws.length) lk.2 * (lk.2 : Rat))).sum ≤ 1 := by
  refine mass_le_one t pws hne _ ?_
  rw [(calcKeyspace_spec t maxKeyspace fuel first).2.1]
  exact List.nodup_range'

/-- over binary64 the lines of `pcfg_omen_prob.txt` are written in non-increasing order (what the loader's
grouping and C01 need of the `M` column), whatever the level densities are -/
theorem C18_prob_file_sorted_binary64 (ks : List (Nat × Nat)) (c : LCtr) (n : Nat) :
    (omenProbFile sfNOps (fun a b => decide (a ≥ b)) ks c n).Pairwise fun a b => b.2 ≤ a.2 := by
  unfold omenProbFile
  exact (List.pairwise_mergeSort (le := fun a b : Nat × Nat => decide (a.2 ≥ b.2))
    (fun a b c h1 h2 => by simp only [ge_iff_le, decide_eq_true_eq] at *; omega)
    (fun a b => by simp only [ge_iff_le, Bool.or_eq_true, decide_eq_true_eq]; omega) _).imp (by simp)

/-- non-vacuity: a bigram model, a list with two passwords at level 0 and one the model cannot place; the
probability of level 0 is (2/3)/keyspace -/
example :
    let t : TTables := { ngram := 2, maxLevel := 3, entries := [⟨['a'], 0, [('a', 0), ('b', 1)]⟩, ⟨['b'], 1, [('a', 0)]⟩], lns := [0, 0, 1] }
    let pws : List Str := [['a', 'a'], ['a', 'a'], ['z', 'z']]
    t.levelsCount pws = [(some 0, 2), (none, 1)] ∧
    omenProbs ratNOps (t.calcKeyspace 100 3 0) (t.levelsCount pws) pws.length = [(0, 2 / 3), (1, 0), (2, 0)] := by
  decide +kernel

/-- **nothing outlives a call except the objects a caller holds**: the list, regenerated from the four library packages, of every
module-level or class-level mutable container, cache decorator or cache call (`functools.lru_cache`, `cache`), mutable or computed default
argument and `global` statement in `lib_guesser`, `lib_trainer`, `lib_scorer`, `lib_princeling` is empty.
C18 needs it because `levelKeyspace` and `omenProbs` are functions of the trained tables and the tally: the saved numbers cannot depend on a
ruleset trained earlier in the same process -/
theorem C18_no_process_wide_state : Generated.ProcessState.processWideState = [] :=
  SourceTables.no_process_wide_state

end Pcfg.C18
