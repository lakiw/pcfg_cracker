import PcfgVerif.Model.CheckValid
import PcfgVerif.Lemmas.LoaderLemmas
import PcfgVerif.Lemmas.LoadBaseLemmas
/-! Non-vacuity of the loader theorems (C07, C14): a concrete list file and a concrete `grammar.txt`. -/
namespace Pcfg

/-- `[("ab ", "0.5"), ("c", "0.5"), ("d", "0.25")]` (the first value ends with a space) -/
def exItems : List (CPs × CPs) :=
  [([97, 98, 32], [48, 46, 53]), ([99], [48, 46, 53]), ([100], [48, 46, 50, 53])]

/-- `float()` on the three texts, in percent; `-1` is the loader's sentinel -/
def exParse (t : CPs) : Option Int :=
  if t = [48, 46, 53] then some 50 else if t = [48, 46, 50, 53] then some 25 else none

def exEqv (a b : Int) : Bool := a == b

theorem exItems_clean : ∀ it ∈ exItems, CleanValue it.1 ∧ CleanProb it.2 := by
  unfold exItems CleanValue CleanProb
  decide +kernel

theorem exItems_parse : ∀ it ∈ exItems, ∃ p, exParse it.2 = some p ∧ exEqv p (-1) = false := by
  unfold exItems
  intro it hit
  simp only [List.mem_cons, List.not_mem_nil, or_false] at hit
  rcases hit with h | h | h <;> subst h
  · exact ⟨50, by decide⟩
  · exact ⟨50, by decide⟩
  · exact ⟨25, by decide⟩

/-- the file text is `"ab \t0.5\nc\t0.5\nd\t0.25\n"` -/
example : writeFile exItems =
    [97, 98, 32, 9, 48, 46, 53, 10, 99, 9, 48, 46, 53, 10, 100, 9, 48, 46, 50, 53, 10] := by decide +kernel

example : codecLines (writeFile exItems) =
    [[97, 98, 32, 9, 48, 46, 53, 10], [99, 9, 48, 46, 53, 10], [100, 9, 48, 46, 50, 53, 10]] := by
  decide +kernel

/-- two groups: `{"ab ", "c"}` at 0.5 (the trailing space of the value survives) and `{"d"}` at 0.25 -/
theorem exItems_loads : loadFromFile exParse exEqv (-1) (writeFile exItems) =
    some [⟨[[97, 98, 32], [99]], 50⟩, ⟨[[100]], 25⟩] := by rfl

example : loadFromFile exParse exEqv (-1) (writeFile exItems) =
    some [⟨[[97, 98, 32], [99]], 50⟩, ⟨[[100]], 25⟩] := exItems_loads

example : scorerLoad exParse (writeFile exItems) =
    some [([97, 98, 32], 50), ([99], 50), ([100], 25)] := by decide +kernel

example := scorerLoad_writeFile exParse exItems exItems_clean
  (fun it hit => by obtain ⟨p, hp, _⟩ := exItems_parse it hit; simp [hp])

/-- percent arithmetic on `Nat`: `one = 100`, `div p t = p * 100 / t` (`none` for `t = 0`) -/
def exArith : PArith Nat :=
  { one := 100, sub := fun a b => a - b, div := fun p t => if t = 0 then none else some (p * 100 / t) }

def exParseN (t : CPs) : Option Nat :=
  if t = [48, 46, 53] then some 50 else if t = [48, 46, 50, 53] then some 25 else none

def exAlpha (c : Nat) : Bool := (65 ≤ c && c ≤ 90) || (97 ≤ c && c ≤ 122)

/-- `"A1D1\t0.5\nM\t0.25\nA2\t0.25\n"`: an `M` line in the middle -/
def exBase : CPs :=
  [65, 49, 68, 49, 9, 48, 46, 53, 10, 77, 9, 48, 46, 50, 53, 10, 65, 50, 9, 48, 46, 50, 53, 10]

theorem exArith_one : ∀ p, exArith.div p exArith.one = some p := by
  intro p
  simp [exArith]

example : loadBase exParseN exArith exAlpha false exBase =
    some [⟨50, [[65, 49], [67, 49], [68, 49]]⟩, ⟨25, [[77]]⟩, ⟨25, [[65, 50], [67, 50]]⟩] := by rfl

example : skipTotal exParseN exArith exBase = some 75 := by decide +kernel

/-- under `skip_brute` the `M` structure is gone and the others are renormalised by `1 - 0.25` -/
example : loadBase exParseN exArith exAlpha true exBase =
    some [⟨66, [[65, 49], [67, 49], [68, 49]]⟩, ⟨33, [[65, 50], [67, 50]]⟩] := by rfl

example : insertCase [[65, 49], [68, 49], [65, 50]] = [[65, 49], [67, 49], [68, 49], [65, 50], [67, 50]] := by
  decide +kernel

example : checkValid [97, 98, 32] = true := by decide +kernel
example : checkValid [97, 9] = false := by decide +kernel
example : checkValid [] = false := by decide +kernel

end Pcfg

