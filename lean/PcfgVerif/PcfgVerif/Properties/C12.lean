import PcfgVerif.Properties.SessionCore
import PcfgVerif.Properties.SourceTables.PrintSites
import PcfgVerif.Properties.SourceTables.ProcessState
import PcfgVerif.Generated.WriterLoops
import PcfgVerif.Lemmas.OmenProb
/-!
# C12 — the guess stream does not depend on thread timing or on standard input

`run us s sched` executes the two-actor state machine of `Model/Session.lean` (main loop and keyboard thread) under an
arbitrary schedule (`sched : List Actor`); `stdin` is an arbitrary script of events (lines incl. status / help requests,
EOF, error; an exhausted script = a pipe that stays open and silent); `us` is what the queue pops, `remaining us f` what a
session started from the files `f` has to print; a new session is the case `f = { savPos := some 0 }` (`initNew_eq`).
What the main loop's quit test reads is generated from the source (`C12_quit_source`).
* never reordered, altered or extended: `C12_prefix`; not shortened without a `q`: `C12_no_spurious_quit`,
  `C12_full_without_quit`; an explicit quit: `C12_quit_boundary_saved`.  All by the invariant `Inv` of
  `Lemmas/SessionLemmas.lean` (the runs without a `q` also by `NQ`, which says that none was read, and by the step
  bound `main_terminates_tight`), for every schedule and every script.
* what the state machine leaves out is pinned by tables regenerated from the source: the keyboard thread writes to
  stderr only (`C12_status_output_never_touches_stdout`), its status report finds every Markov level
  (`C12_keyspace_file_lists_every_level`), nothing is shared between the threads but the objects they are handed
  (`C12_no_process_wide_state`).

Left to the harness, and trusted beyond what it observes: OS scheduling and the atomicity of the modelled steps (runs with
a scripted stand-in for the thread that yields at each modelled step), what `input()` does on each kind of standard
input (subprocess runs).
-/
namespace Pcfg.C12
open Pcfg.Sess

/-- after every schedule the output is a prefix of what the session had to print: never reordered, altered or extended -/
theorem C12_prefix (us : List Unit') (f : Files) (stdin : List Ev) (sched : List Actor) :
    ∃ n, (run us (initLoad f stdin) sched).out = (remaining us f).take n :=
  ⟨_, (inv_run us f stdin sched).out_prefix⟩

/-- without a `q` line on standard input, after any schedule `should_exit` and `omen_exit` are unset and the main loop
has not taken the early exit (the only step that saves a quit position) -/
theorem C12_no_spurious_quit (us : List Unit') (f : Files) (stdin : List Ev) (sched : List Actor)
    (hq : NoQuit stdin) :
    (run us (initLoad f stdin) sched).shouldExit = false ∧
    (run us (initLoad f stdin) sched).main ≠ .exited ∧
    (run us (initLoad f stdin) sched).omenExit = false :=
  (inv_run us f stdin sched).no_quit ((NQ.init f stdin hq).run sched).qs

/-- without a `q` line, nothing on standard input (EOF, errors, status / help requests in any number and order) and no
schedule (keyboard thread finishing before, during or after any iteration) shortens the stream: once the main loop has
been scheduled one step per line, two per unit and three more (one more than `main_terminates_tight` asks for), it
has finished and everything is printed -/
theorem C12_full_without_quit (us : List Unit') (f : Files) (stdin : List Ev) (sched : List Actor)
    (hq : NoQuit stdin) (hn : (remaining us f).length + 2 * us.length + 3 ≤ mainSteps sched) :
    (run us (initLoad f stdin) sched).main = .finished ∧
    (run us (initLoad f stdin) sched).out = remaining us f := by
  have ⟨_, hne, ho⟩ := C12_no_spurious_quit us f stdin sched hq
  have hfin := (main_terminates_tight us f stdin sched (Nat.le_of_succ_le hn)).resolve_right hne
  exact ⟨hfin, (inv_run us f stdin sched).finished_complete hfin ho⟩

set_option linter.unusedVariables false in
/-- if the main loop took the early exit, a `q` line was read, the save file holds a position, and nothing is lost by
the cut: what was printed, followed by what a session resumed from the files has to print (the `.omn` remainder if the save
file asks for it, then everything from the saved pre-terminal on), is what this session had to print (`hf` is not needed) -/
theorem C12_quit_boundary_saved (us : List Unit') (f : Files) (hf : f.omenOpt = true → f.omn.isSome = true)
    (stdin : List Ev) (sched : List Actor)
    (h : (run us (initLoad f stdin) sched).main = .exited) :
    (run us (initLoad f stdin) sched).quitSeen = true ∧
    ((run us (initLoad f stdin) sched).files.savPos).isSome = true ∧
    (run us (initLoad f stdin) sched).out ++ remaining us (run us (initLoad f stdin) sched).files = remaining us f := by
  have hi := inv_run us f stdin sched
  exact ⟨(hi.exited h).1, (hi.exited h).2, hi.exit_resume h⟩

/-- the main loop's quit test reads the flag the user's `q` sets, not the liveness of the keyboard thread; and
`keypress` keeps a `q` when printing the status fails (both read from the source) -/
theorem C12_quit_source : Generated.Session.quitSrc = .shouldExit ∧
    Generated.Session.keepsQuitOnStatusFailure = true := ⟨source_facts.1, source_facts.2.2⟩

/-- whatever the keyboard / status thread does, it does it to stderr: in the modules the guesser runs, the only call site that is
not bound to stderr is `print_guess`, and nothing is done to `sys.stdout` besides writing and flushing it (no redirection that would
swap the process-wide stream while the main loop prints) - regenerated from the source on every run -/
theorem C12_status_output_never_touches_stdout :
    Generated.PrintSites.guesserNonStderr =
      [("lib_guesser/pcfg_grammar.py", "PcfgGrammar.print_guess", "stdout")] :=
  SourceTables.only_print_guess_writes_stdout

/-- **`omen_keyspace.txt` has a line for every level that has one in `pcfg_omen_prob.txt`** (the levels the guesser is handed; the
status report of a Markov pre-terminal looks its level up in the table loaded from `omen_keyspace.txt`): that file is written by one loop
over `reversed(omen_keyspace.most_common())` whose body writes a record at every iteration (regenerated from the source), so it lists every
level of the keyspace counter (`keyspaceFile_perm`), and every level with a line in `pcfg_omen_prob.txt` is a level of that counter.
(A keyboard thread that dies on a status request never reads the `q` typed after it.) -/
theorem C12_keyspace_file_lists_every_level :
    ("omen_keyspace.txt", "reversed(omen_keyspace.most_common())") ∈ Generated.WriterLoops.omenLoops ∧
    (Generated.WriterLoops.omenLoopBodies.filter (·.1 == "omen_keyspace.txt")) = [("omen_keyspace.txt", "every-record")] ∧
    (∀ ks : List (Nat × Nat), (Omen.keyspaceFile ks).Perm ks) ∧
    ∀ (ks : List (Nat × Nat)) (c : Omen.LCtr) (n level : Nat) (p : Rat),
      (level, p) ∈ Omen.omenProbs Omen.ratNOps ks c n → ∃ k, (level, k) ∈ Omen.keyspaceFile ks :=
  ⟨by decide +kernel, by decide +kernel, Omen.keyspaceFile_perm, Omen.prob_level_in_keyspaceFile Omen.ratNOps⟩

/-- **nothing outlives a call except the objects a caller holds**: the list, regenerated from the four library packages, of every
module-level or class-level mutable container, cache decorator or cache call (`functools.lru_cache`, `cache`), mutable or computed default
argument and `global` statement in `lib_guesser`, `lib_trainer`, `lib_scorer`, `lib_princeling` is empty.
C12 needs it because the two actors of `Model/Session.lean` share the fields of `St` and nothing else: the threads meet only in the objects
they are handed -/
theorem C12_no_process_wide_state : Generated.ProcessState.processWideState = [] :=
  SourceTables.no_process_wide_state

end Pcfg.C12
