import PcfgVerif.Properties.PQCore
import PcfgVerif.Lemmas.TrainedWF
/-!
# C02 — every pre-terminal of the grammar is emitted exactly once

`Reach` covers every intermediate state of the queue under every tie-breaking of the heap; the
counting invariant `Adopt.Inv` is order-independent, but `C02_exactly_once` is read off `reach_summary`, which proves it together
with the order invariant of C01 and so uses the whole of `WF`, sortedness included.  Duplicate base structures are distinct
nodes (different `b`).  `C02_exactly_once` is the property on pre-terminals, `C02_language` its reading on guesses;
`C02_terminates` and `C02_no_early_stop` say that a run does get to the empty queue the first speaks of.
-/
namespace Pcfg.C02
variable {P : Type} [Inhabited P]

/-- in every reachable state nothing is in `popped ++ queue` twice and everything is a grid node;
when the queue is empty the emitted list is a permutation of all (structure, one group per variable)
combinations: none skipped, none repeated -/
theorem C02_exactly_once (A : PAlg P) (g : Grid P) (hwf : WF A.toPOps g) (s : PQState)
    (h : Reach A.toPOps g (initNodes g) s) :
    (s.popped ++ s.queue).Nodup ∧ (∀ v ∈ s.popped ++ s.queue, ValidNode g v) ∧
      (s.queue = [] → s.popped.Perm (allNodes g)) :=
  have ⟨h1, _, h3, h4, _⟩ := reach_init A g hwf s h
  ⟨h1, h3, h4⟩

/-- the run ends: at most one pop per grid node -/
theorem C02_terminates (A : PAlg P) (g : Grid P) (hwf : WF A.toPOps g) (s : PQState)
    (h : Reach A.toPOps g (initNodes g) s) : s.popped.length ≤ (allNodes g).length :=
  (reach_init A g hwf s h).2.2.2.2

/-- and it cannot stop early: a non-empty queue always has a poppable element, so the only final
states are those with an empty queue, where `C02_exactly_once` gives the whole grid -/
theorem C02_no_early_stop (A : PAlg P) (g : Grid P) (q : List Node) (hq : q ≠ []) :
    ∃ x, isTop A.toPOps g q x = true :=
  exists_isTop A g q hq

/-- every queued node is in range: its structure exists and each index points into its group list (so the `getD`
defaults of the model's lookups are never what is read) -/
theorem C02_lookups_in_range (A : PAlg P) (g : Grid P) (hwf : WF A.toPOps g) (s : PQState)
    (h : Reach A.toPOps g (initNodes g) s) (v : Node) (hv : v ∈ s.queue) :
    v.b < g.length ∧ validIdx (g.struct v.b).cols v.idx = true :=
  (reach_init A g hwf s h).2.2.1 v (List.mem_append_right _ hv)

/-- the language: whatever each pre-terminal expands to (`f`), a completed run has emitted, as a multiset, exactly the
expansions of all (structure, one group per variable) combinations — with C04 (`f` = the product of the groups) this is "the
set of emitted guesses is the language of the grammar, every derivation once" -/
theorem C02_language {α : Type} (A : PAlg P) (g : Grid P) (hwf : WF A.toPOps g) (s : PQState)
    (h : Reach A.toPOps g (initNodes g) s) (hq : s.queue = []) (f : Node → List α) :
    (s.popped.flatMap f).Perm ((allNodes g).flatMap f) :=
  ((C02_exactly_once A g hwf s h).2.2 hq).flatMap_right f

/-- **binary64 instance** (see `C01_order_binary64`): exactly-once for IEEE-754 doubles, every tie,
rounding difference, denormal and underflow to zero included, with no floating-point hypothesis -/
theorem C02_exactly_once_binary64 (g : Grid Nat) (hwf : WF sfAlg.toPOps g) (s : PQState)
    (h : Reach sfAlg.toPOps g (initNodes g) s) :
    (s.popped ++ s.queue).Nodup ∧ (∀ v ∈ s.popped ++ s.queue, ValidNode g v) ∧
      (s.queue = [] → s.popped.Perm (allNodes g)) :=
  C02_exactly_once sfAlg g hwf s h

/-- non-vacuity: on the 2×2 grid whose two middle nodes tie exactly, both resolutions of the tie are
reachable and both emit the four nodes once -/
example : Pcfg.Example.final0.popped.Perm (allNodes Pcfg.Example.g0) :=
  (C02_exactly_once natAlg _ Pcfg.Example.wf0 _ Pcfg.Example.reach0).2.2 rfl

example : [(⟨0, [0, 0]⟩ : Node), ⟨0, [0, 1]⟩, ⟨0, [1, 0]⟩, ⟨0, [1, 1]⟩].Perm (allNodes Pcfg.Example.g0) :=
  (C02_exactly_once natAlg _ Pcfg.Example.wf0 _ Pcfg.Example.reach0').2.2 rfl

/-- **C02 over binary64 for grids of trainer-written list files, well-formedness proved instead of assumed** (`TrainedCols`: every column
loaded from a list file the trainer wrote, which the `M` column is not, see `C01_trained_order`): every pre-terminal exactly once, none skipped, for every tie-breaking of the heap -/
theorem C02_trained_exactly_once (parseP : CPs → Option Nat) (showP : Nat → CPs) (neg1 : Nat)
    (hround : ∀ p, parseP (showP p) = some p) (hshow : ∀ p, CleanProb (showP p)) (g : Grid Nat)
    (hcols : TrainedCols parseP showP neg1 g) (s : PQState) (h : Reach sfAlg.toPOps g (initNodes g) s) :
    (s.popped ++ s.queue).Nodup ∧ (∀ v ∈ s.popped ++ s.queue, ValidNode g v) ∧
      (s.queue = [] → s.popped.Perm (allNodes g)) :=
  C02_exactly_once_binary64 g (trained_grid_wf parseP showP neg1 hround hshow g hcols) s h

end Pcfg.C02
