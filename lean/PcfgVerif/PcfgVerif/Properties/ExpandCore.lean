import PcfgVerif.Model.ExpandSpec
/-! A worked pre-terminal: `A2 C2 D1` with two words, two masks, two digits, without and with a limit. -/
namespace Pcfg
namespace ExpandExample

def up (c : Char) : List Char := [c.toUpper]
def gr : EGrammar :=
  [("A2", [[['a','b'],['c','d']]]), ("C2", [[['L','L'],['U','L']]]), ("D1", [[['1'],['2']]])]
def pt0 : PT := [("A2", 0), ("C2", 0), ("D1", 0)]

example : okSpec up gr [] pt0 = true := by decide +kernel

example : productSpec up gr [] pt0 =
    ["ab1".toList, "ab2".toList, "Ab1".toList, "Ab2".toList,
     "cd1".toList, "cd2".toList, "Cd1".toList, "Cd2".toList] := by decide +kernel

/-- the limit 3 falls inside the mask loop (second mask of the first word) -/
example : recGuesses up gr (fun _ => none) [] pt0 (some 3) =
    ⟨["ab1".toList, "ab2".toList, "Ab1".toList], 3, false⟩ := by rfl

example : (recGuesses up gr (fun _ => none) [] pt0 (some 3)).out =
    (productSpec up gr [] pt0).take 3 := by decide +kernel

/-- the limit falls inside a mask loop that is itself the last position -/
example : recGuesses up gr (fun _ => none) [] [("A2", 0), ("C2", 0)] (some 3) =
    ⟨["ab".toList, "Ab".toList, "cd".toList], 3, false⟩ := by rfl

end ExpandExample

end Pcfg
